/-
  Bytes, little-endian fixed-width integers, and the outcome type shared by all models.

  A buffer is `List UInt8` in statements and proofs.  Fixed-width values are little-endian
  (pinned platform: x86-64 Linux; the format is documented as host-endian).
-/
deriving instance DecidableEq for Except   -- for `decide` on the `Outcome` of a concrete run

namespace BinlogVerif

abbrev Bytes := List UInt8

/-- `n` little-endian bytes of `v` (the low `8*n` bits). -/
def le : (n : Nat) → (v : Nat) → Bytes
  | 0, _ => []
  | n+1, v => UInt8.ofNat (v % 256) :: le n (v / 256)

/-- value of a little-endian byte string -/
def unle : Bytes → Nat
  | [] => 0
  | b :: bs => b.toNat + 256 * unle bs

@[simp] theorem le_length (n v : Nat) : (le n v).length = n := by
  induction n generalizing v with
  | zero => rfl
  | succ n ih => simp [le, ih]

theorem unle_le (n v : Nat) : unle (le n v) = v % 256 ^ n := by
  induction n generalizing v with
  | zero => simp [le, unle, Nat.mod_one]
  | succ n ih =>
    simp only [le, unle, ih]
    have h : (UInt8.ofNat (v % 256)).toNat = v % 256 := by
      simp
    rw [h, Nat.pow_succ, Nat.mul_comm (256 ^ n) 256, Nat.mod_mul]

theorem unle_le_of_lt (n v : Nat) (h : v < 256 ^ n) : unle (le n v) = v := by
  rw [unle_le, Nat.mod_eq_of_lt h]

theorem unle_lt (bs : Bytes) : unle bs < 256 ^ bs.length := by
  induction bs with
  | nil => simp [unle]
  | cons b bs ih =>
    simp only [unle, List.length_cons, Nat.pow_succ]
    have hb : b.toNat < 256 := b.toNat_lt
    omega

theorem le_unle (bs : Bytes) : le bs.length (unle bs) = bs := by
  induction bs with
  | nil => rfl
  | cons b bs ih =>
    -- the low byte of `b + 256 * u` is `b`, the rest is `u`
    rw [List.length_cons, unle, le, Nat.add_mul_mod_self_left, Nat.add_mul_div_left _ _ (by decide),
      Nat.mod_eq_of_lt b.toNat_lt, Nat.div_eq_of_lt b.toNat_lt, Nat.zero_add, ih, UInt8.ofNat_toNat]

/-- Error kinds.  `trap` is what must never happen (out-of-bounds access, failed assert);
    everything else is a C++ exception thrown on purpose. -/
inductive Err where
  | overflow            -- binlog::Range overflow (std::runtime_error)
  | invalidSource       -- Event has invalid source id
  | truncSize           -- IstreamEntryStream: not enough bytes for the size field
  | truncPayload        -- IstreamEntryStream: payload truncated
  | recursion           -- recursion limit exceeded
  | invalidTag          -- invalid arithmetic / enum tag
  | sizeMismatch        -- sequence size mismatch on a non-resizable destination
  | trap (what : String)
deriving Repr, DecidableEq, Inhabited

def Err.isTrap : Err → Bool
  | .trap _ => true
  | _ => false

def Err.code : Err → String
  | .overflow => "overflow"
  | .invalidSource => "invalid-source"
  | .truncSize => "trunc-size"
  | .truncPayload => "trunc-payload"
  | .recursion => "recursion"
  | .invalidTag => "invalid-tag"
  | .sizeMismatch => "size-mismatch"
  | .trap w => "TRAP:" ++ w

abbrev Outcome (α : Type) := Except Err α

theorem bind_ok_elim {α β : Type} {m : Outcome α} {f : α → Outcome β} {b : β}
    (h : (m >>= f) = .ok b) : ∃ a, m = .ok a ∧ f a = .ok b := by
  cases m with
  | ok a => exact ⟨a, rfl, h⟩
  | error e => cases h

theorem ok_of_isOk {α : Type} {m : Outcome α} (h : m.isOk = true) : ∃ a, m = .ok a := by
  cases m with
  | ok a => exact ⟨a, rfl⟩
  | error e => cases h

/-- `binlog::Range::read`/`view`: take `n` bytes or throw `Range overflow`. -/
def takeN (n : Nat) (r : Bytes) : Outcome (Bytes × Bytes) :=
  if n ≤ r.length then .ok (r.take n, r.drop n) else .error .overflow

/-- read an unsigned `n`-byte little-endian integer -/
def readU (n : Nat) (r : Bytes) : Outcome (Nat × Bytes) :=
  match takeN n r with
  | .ok (b, rest) => .ok (unle b, rest)
  | .error e => .error e

theorem takeN_append (n : Nat) (a b : Bytes) (h : a.length = n) :
    takeN n (a ++ b) = .ok (a, b) := by
  simp [takeN, ← h]

theorem readU_le_append (n v : Nat) (rest : Bytes) (h : v < 256 ^ n) :
    readU n (le n v ++ rest) = .ok (v, rest) := by
  simp [readU, takeN_append n (le n v) rest (le_length n v), unle_le_of_lt n v h]

theorem readU_short (n : Nat) (r : Bytes) (h : r.length < n) : readU n r = .error .overflow := by
  have : ¬ n ≤ r.length := by omega
  simp [readU, takeN, this]

theorem takeN_ok_iff {n : Nat} {r a b : Bytes} : takeN n r = .ok (a, b) ↔ r = a ++ b ∧ a.length = n := by
  constructor
  · unfold takeN
    split
    · rintro ⟨⟩
      exact ⟨(List.take_append_drop n r).symm, List.length_take_of_le ‹_›⟩
    · rintro ⟨⟩
  · rintro ⟨rfl, h⟩
    exact takeN_append n a b h

theorem readU_ok_iff {n v : Nat} {r b : Bytes} : readU n r = .ok (v, b) ↔ r = le n v ++ b ∧ v < 256 ^ n := by
  constructor
  · unfold readU
    cases ht : takeN n r with
    | error e => rintro ⟨⟩
    | ok ab =>
      rintro ⟨⟩
      obtain ⟨rfl, rfl⟩ := takeN_ok_iff.mp ht
      exact ⟨by rw [le_unle], unle_lt _⟩
  · rintro ⟨rfl, h⟩
    exact readU_le_append n v b h

theorem readU_error_overflow {n : Nat} {r : Bytes} {e : Err} (h : readU n r = .error e) : e = .overflow := by
  unfold readU takeN at h
  by_cases hle : n ≤ r.length <;> simp [hle] at h
  exact h.symm

theorem le_append_isEmpty (n v : Nat) (rest : Bytes) (hn : 0 < n) : (le n v ++ rest).isEmpty = false := by
  cases n with
  | zero => cases hn
  | succ n => rfl

theorem isEmpty_of_readU {n v : Nat} {p b : Bytes} (h : readU (n + 1) p = .ok (v, b)) : p.isEmpty = false := by
  rw [(readU_ok_iff.mp h).1]
  exact le_append_isEmpty _ v b n.succ_pos

def hexDigit (n : Nat) : Char :=
  if n < 10 then Char.ofNat (48 + n) else Char.ofNat (87 + n)

def Bytes.toHex (b : Bytes) : String :=
  String.ofList (b.flatMap fun x => [hexDigit (x.toNat / 16), hexDigit (x.toNat % 16)])

def hexVal (c : Char) : Option Nat :=
  if '0' ≤ c ∧ c ≤ '9' then some (c.toNat - 48)
  else if 'a' ≤ c ∧ c ≤ 'f' then some (c.toNat - 87)
  else if 'A' ≤ c ∧ c ≤ 'F' then some (c.toNat - 55)
  else none

def Bytes.ofHex (s : String) : Option Bytes :=
  let rec go : List Char → Option Bytes
    | [] => some []
    | [_] => none
    | a :: b :: rest => do
      let x ← hexVal a
      let y ← hexVal b
      let r ← go rest
      pure (UInt8.ofNat (16 * x + y) :: r)
  go s.toList

end BinlogVerif
