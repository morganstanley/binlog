/-
  C++ integer semantics for the definitions generated by tools/c2lean.py (Generated/Src*.lean).
  Values are mathematical integers; every arithmetic operation of the C++ source is performed on
  the integers and then *wrapped* to the width of the type the usual arithmetic conversions give
  it.  Unsigned wrap is the C++ standard's modular arithmetic; signed wrap is two's complement
  (what gcc/clang emit here; signed overflow is undefined in the standard and is listed as an
  assumption of the trusted base — the bridge lemmas are stated for ranges where no signed
  operation overflows, so they do not depend on it).  `/` and `%` are `Int.tdiv`/`Int.tmod`
  (truncation toward zero, remainder with the sign of the dividend), as in C++11.
-/
namespace BinlogVerif.CSem

def u64 (x : Int) : Int := x % 18446744073709551616
def i64 (x : Int) : Int := (x + 9223372036854775808) % 18446744073709551616 - 9223372036854775808
def u32 (x : Int) : Int := x % 4294967296
def i32 (x : Int) : Int := (x + 2147483648) % 4294967296 - 2147483648
def i8 (x : Int) : Int := (x + 128) % 256 - 128

theorem u64_of_range {x : Int} (h0 : 0 ≤ x) (h1 : x < 18446744073709551616) : u64 x = x := by
  unfold u64; omega
theorem i64_of_range {x : Int} (h0 : -9223372036854775808 ≤ x) (h1 : x < 9223372036854775808) : i64 x = x := by
  unfold i64; omega
theorem u32_of_range {x : Int} (h0 : 0 ≤ x) (h1 : x < 4294967296) : u32 x = x := by
  unfold u32; omega
theorem i32_of_range {x : Int} (h0 : -2147483648 ≤ x) (h1 : x < 2147483648) : i32 x = x := by
  unfold i32; omega

theorem u64_range (x : Int) : 0 ≤ u64 x ∧ u64 x < 18446744073709551616 := by unfold u64; omega
theorem i64_range (x : Int) : -9223372036854775808 ≤ i64 x ∧ i64 x < 9223372036854775808 := by unfold i64; omega
theorem u32_range (x : Int) : 0 ≤ u32 x ∧ u32 x < 4294967296 := by unfold u32; omega
theorem i32_range (x : Int) : -2147483648 ≤ i32 x ∧ i32 x < 2147483648 := by unfold i32; omega

end BinlogVerif.CSem
