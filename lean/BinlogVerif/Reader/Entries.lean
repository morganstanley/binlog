import BinlogVerif.Base.Bytes
/-
  Model of include/binlog/Entries.hpp: the three metadata entries, their (de)serialisation
  (struct = members in order, string = u32 count + bytes, integers little-endian) and entry
  framing (u32 size prefix + payload, payload = u64 tag + body).
-/
namespace BinlogVerif

def tagEventSource : Nat := 2^64 - 1   -- std::uint64_t(-1)
def tagWriterProp  : Nat := 2^64 - 2   -- std::uint64_t(-2)
def tagClockSync   : Nat := 2^64 - 3   -- std::uint64_t(-3)

/-- `(tag & (1 << 63)) != 0` -/
def isSpecial (tag : Nat) : Bool := tag ≥ 2^63

structure EventSource where
  id : Nat := 0
  severity : Nat := 128          -- Severity::info
  category : Bytes := []
  function : Bytes := []
  file : Bytes := []
  line : Nat := 0
  formatString : Bytes := []
  argumentTags : Bytes := []
deriving Repr, DecidableEq, Inhabited

structure WriterProp where
  id : Nat := 0
  name : Bytes := []
  batchSize : Nat := 0
deriving Repr, DecidableEq, Inhabited

structure ClockSync where
  clockValue : Nat := 0
  clockFrequency : Nat := 0
  nsSinceEpoch : Nat := 0
  tzOffset : Nat := 0            -- raw 32-bit pattern of the int32 field
  tzName : Bytes := []
deriving Repr, DecidableEq, Inhabited

def encStr (s : Bytes) : Bytes := le 4 s.length ++ s

def decStr (r : Bytes) : Outcome (Bytes × Bytes) := do
  let (n, r) ← readU 4 r
  takeN n r

theorem decStr_encStr (s rest : Bytes) (h : s.length < 2^32) :
    decStr (encStr s ++ rest) = .ok (s, rest) := by
  have h' : s.length < 256 ^ 4 := by simpa using h
  simp only [decStr, encStr, List.append_assoc]
  rw [readU_le_append 4 s.length (s ++ rest) h']
  simp [bind, Except.bind, takeN_append s.length s rest rfl]

def encSource (s : EventSource) : Bytes :=
  le 8 s.id ++ le 2 s.severity ++ encStr s.category ++ encStr s.function ++ encStr s.file
    ++ le 8 s.line ++ encStr s.formatString ++ encStr s.argumentTags

def decSource (r : Bytes) : Outcome (EventSource × Bytes) := do
  let (id, r) ← readU 8 r
  let (severity, r) ← readU 2 r
  let (category, r) ← decStr r
  let (function, r) ← decStr r
  let (file, r) ← decStr r
  let (line, r) ← readU 8 r
  let (formatString, r) ← decStr r
  let (argumentTags, r) ← decStr r
  pure ({ id, severity, category, function, file, line, formatString, argumentTags }, r)

def encWriterProp (w : WriterProp) : Bytes :=
  le 8 w.id ++ encStr w.name ++ le 8 w.batchSize

def decWriterProp (r : Bytes) : Outcome (WriterProp × Bytes) := do
  let (id, r) ← readU 8 r
  let (name, r) ← decStr r
  let (batchSize, r) ← readU 8 r
  pure ({ id, name, batchSize }, r)

def encClockSync (c : ClockSync) : Bytes :=
  le 8 c.clockValue ++ le 8 c.clockFrequency ++ le 8 c.nsSinceEpoch ++ le 4 c.tzOffset
    ++ encStr c.tzName

def decClockSync (r : Bytes) : Outcome (ClockSync × Bytes) := do
  let (clockValue, r) ← readU 8 r
  let (clockFrequency, r) ← readU 8 r
  let (nsSinceEpoch, r) ← readU 8 r
  let (tzOffset, r) ← readU 4 r
  let (tzName, r) ← decStr r
  pure ({ clockValue, clockFrequency, nsSinceEpoch, tzOffset, tzName }, r)

/-- an entry as it appears in a stream: u32 size prefix + payload -/
def frame (payload : Bytes) : Bytes := le 4 payload.length ++ payload

def sourcePayload (s : EventSource) : Bytes := le 8 tagEventSource ++ encSource s
def writerPropPayload (w : WriterProp) : Bytes := le 8 tagWriterProp ++ encWriterProp w
def clockSyncPayload (c : ClockSync) : Bytes := le 8 tagClockSync ++ encClockSync c
def eventPayload (sourceId clock : Nat) (args : Bytes) : Bytes := le 8 sourceId ++ le 8 clock ++ args

/-- well-formedness of field values (they fit their machine types) -/
def EventSource.Wf (s : EventSource) : Prop :=
  s.id < 2^64 ∧ s.severity < 2^16 ∧ s.category.length < 2^32 ∧ s.function.length < 2^32 ∧
  s.file.length < 2^32 ∧ s.line < 2^64 ∧ s.formatString.length < 2^32 ∧ s.argumentTags.length < 2^32

def WriterProp.Wf (w : WriterProp) : Prop :=
  w.id < 2^64 ∧ w.name.length < 2^32 ∧ w.batchSize < 2^64

def ClockSync.Wf (c : ClockSync) : Prop :=
  c.clockValue < 2^64 ∧ c.clockFrequency < 2^64 ∧ c.nsSinceEpoch < 2^64 ∧ c.tzOffset < 2^32 ∧
  c.tzName.length < 2^32

theorem decSource_encSource (s : EventSource) (rest : Bytes) (h : s.Wf) :
    decSource (encSource s ++ rest) = .ok (s, rest) := by
  obtain ⟨h1, h2, h3, h4, h5, h6, h7, h8⟩ := h
  simp only [decSource, encSource, List.append_assoc, bind, Except.bind, readU_le_append 8 s.id _ h1,
    readU_le_append 2 s.severity _ h2, decStr_encStr _ _ h3, decStr_encStr _ _ h4, decStr_encStr _ _ h5,
    readU_le_append 8 s.line _ h6, decStr_encStr _ _ h7, decStr_encStr _ _ h8]
  rfl

theorem decWriterProp_encWriterProp (w : WriterProp) (rest : Bytes) (h : w.Wf) :
    decWriterProp (encWriterProp w ++ rest) = .ok (w, rest) := by
  obtain ⟨h1, h2, h3⟩ := h
  simp only [decWriterProp, encWriterProp, List.append_assoc, bind, Except.bind, readU_le_append 8 w.id _ h1,
    decStr_encStr _ _ h2, readU_le_append 8 w.batchSize _ h3]
  rfl

theorem decClockSync_encClockSync (c : ClockSync) (rest : Bytes) (h : c.Wf) :
    decClockSync (encClockSync c ++ rest) = .ok (c, rest) := by
  obtain ⟨h1, h2, h3, h4, h5⟩ := h
  simp only [decClockSync, encClockSync, List.append_assoc, bind, Except.bind,
    readU_le_append 8 c.clockValue _ h1, readU_le_append 8 c.clockFrequency _ h2,
    readU_le_append 8 c.nsSinceEpoch _ h3, readU_le_append 4 c.tzOffset _ h4, decStr_encStr _ _ h5]
  rfl

end BinlogVerif
