import BinlogVerif.Reader.Entries
import BinlogVerif.Reader.SegMap
/-
  Model of include/binlog/EntryStream.cpp and include/binlog/EventStream.cpp.

  `splitEntries` models both entry streams (`IstreamEntryStream` over a seekable istream and
  `RangeEntryStream`): the list of whole payloads, how many bytes they span, and how the input
  ends.  `ReaderState`/`processEntry` model `EventStream::nextEvent`'s body for one payload:
  deserialise into a temporary, commit on success.
-/
namespace BinlogVerif

/-- how an entry stream ends -/
inductive Tail where
  | clean          -- end of input on an entry boundary
  | truncSize      -- 1..3 bytes left: "Failed to read entry size" (istream) / Range overflow
  | truncPayload   -- size field present, payload cut
deriving Repr, DecidableEq, Inhabited

/-- One `nextEntryPayload` call on the remaining input.
    `none` = eof (no bytes); otherwise the payload and the rest, or the error (input position
    unchanged: the istream version rewinds, the range version is abandoned by the caller). -/
def nextEntry (r : Bytes) : Option (Except Tail (Bytes × Bytes)) :=
  if r.isEmpty then none
  else if r.length < 4 then some (.error .truncSize)
  else
    let size := unle (r.take 4)
    let r' := r.drop 4
    if size ≤ r'.length then some (.ok (r'.take size, r'.drop size))
    else some (.error .truncPayload)

/-- All whole entries of the input, the number of bytes they occupy, and the tail status.
    Fuel-recursive (each entry consumes ≥ 4 bytes, so `r.length` fuel always suffices). -/
def splitEntriesFuel : Nat → Bytes → List Bytes × Nat × Tail
  | 0, _ => ([], 0, .clean)
  | fuel+1, r =>
    match nextEntry r with
    | none => ([], 0, .clean)
    | some (.error t) => ([], 0, t)
    | some (.ok (p, rest)) =>
      let (ps, n, t) := splitEntriesFuel fuel rest
      (p :: ps, 4 + p.length + n, t)

def splitEntries (r : Bytes) : List Bytes × Nat × Tail := splitEntriesFuel (r.length + 1) r

/-- concatenation of framed payloads -/
def frames (ps : List Bytes) : Bytes := (ps.map frame).flatten

def PayloadOk (p : Bytes) : Prop := p.length < 2^32

structure Event where
  source : EventSource
  clockValue : Nat
  arguments : Bytes
deriving Repr, DecidableEq, Inhabited

structure ReaderState where
  sources : SegMap EventSource := SegMap.empty
  writerProp : WriterProp := {}
  clockSync : ClockSync := {}
deriving Repr, Inhabited

/-- What one payload does to the reader.  `skip` covers metadata entries and ignored unknown
    special entries; `stop` is the empty payload (`if (range.empty()) return nullptr`). -/
inductive EntryResult where
  | stop
  | skip
  | event (e : Event)
deriving Repr, DecidableEq, Inhabited

/-- Body of the loop in `EventStream::nextEvent` for one payload, as one exception-monad
    computation returning the result and the *new* state.  Every `read*` helper of the code
    deserialises into a local and commits afterwards, so an exception leaves no partial state. -/
def processEntryCore (st : ReaderState) (payload : Bytes) : Outcome (EntryResult × ReaderState) := do
  if payload.isEmpty then return (.stop, st)
  let (tag, body) ← readU 8 payload
  if isSpecial tag then
    if tag = tagEventSource then
      let (src, _) ← decSource body
      return (.skip, { st with sources := st.sources.emplace src.id src })
    else if tag = tagWriterProp then
      let (wp, _) ← decWriterProp body
      return (.skip, { st with writerProp := wp })
    else if tag = tagClockSync then
      let (cs, _) ← decClockSync body
      return (.skip, { st with clockSync := cs })
    else return (.skip, st)            -- unknown special entries are ignored
  else
    match st.sources.find tag with
    | none => throw .invalidSource
    | some src =>
      let (clock, args) ← readU 8 body
      return (.event ⟨src, clock, args⟩, st)

/-- On `error` the state is the old one (temporary-then-commit). -/
def processEntry (st : ReaderState) (payload : Bytes) : Outcome EntryResult × ReaderState :=
  match processEntryCore st payload with
  | .ok (r, st') => (.ok r, st')
  | .error e => (.error e, st)

/-- what a reader loop observes per entry -/
inductive Item where
  | event (e : Event) (wp : WriterProp) (cs : ClockSync)
  | error (e : Err)
deriving Repr, DecidableEq, Inhabited

/-- one reader-loop iteration: `none` = `nextEvent` returned null (empty payload) -/
def stepEntry (st : ReaderState) (p : Bytes) : Option (List Item × ReaderState) :=
  match processEntry st p with
  | (.ok .stop, _) => none
  | (.ok .skip, st') => some ([], st')
  | (.ok (.event e), st') => some ([.event e st'.writerProp st'.clockSync], st')
  | (.error e, st') => some ([.error e], st')

/-- A reader that keeps calling `nextEvent` after exceptions (as the unit tests
    `continue_after_event_invalid_*` do), until `nextEvent` returns null. -/
def readAll : ReaderState → List Bytes → List Item
  | _, [] => []
  | st, p :: ps =>
    match stepEntry st p with
    | none => []
    | some (items, st') => items ++ readAll st' ps

/-- state after processing `ps` with a continuing reader, and whether a `stop` payload occurred -/
def runState : ReaderState → List Bytes → ReaderState × Bool
  | st, [] => (st, false)
  | st, p :: ps =>
    match stepEntry st p with
    | none => (st, true)
    | some (_, st') => runState st' ps

def Item.isError : Item → Bool
  | .error _ => true
  | _ => false

/-- A reader that stops at the first exception (as `bread`'s `printEvents` does):
    the items up to and including the first error. -/
def untilError : List Item → List Item
  | [] => []
  | .error e :: _ => [.error e]
  | it :: rest => it :: untilError rest

def readUntilError (st : ReaderState) (ps : List Bytes) : List Item := untilError (readAll st ps)

end BinlogVerif
