import BinlogVerif.Base.Bytes
/-
  Model of include/binlog/detail/SegmentedMap.hpp.

  The code keeps two parallel vectors `_offsets` / `_segments`; the model keeps the list of
  pairs `(offset, segment)` (an isomorphic representation; `toVectors` recovers the vectors and
  the correspondence harness compares against them).  `segmentIndex` is the code's linear scan:
  advance while the *next* offset is `≤ key`.  `key - offset` is the 64-bit machine subtraction.
-/
namespace BinlogVerif

abbrev SegMap (V : Type) := List (Nat × List V)

namespace SegMap

def empty {V} : SegMap V := [(0, [])]

/-- `key - offset` on `std::uint64_t` -/
def sub64 (a b : Nat) : Nat := (a + 2^64 - b % 2^64) % 2^64

theorem sub64_of_le {a b : Nat} (hb : b ≤ a) (ha : a < 2^64) : sub64 a b = a - b := by
  unfold sub64
  rw [Nat.mod_eq_of_lt (Nat.lt_of_le_of_lt hb ha), Nat.add_comm, Nat.add_sub_assoc hb, Nat.add_mod_left,
    Nat.mod_eq_of_lt (Nat.lt_of_le_of_lt (Nat.sub_le a b) ha)]

def find {V} : SegMap V → Nat → Option V
  | [], _ => none                                   -- unreachable: `_offsets` starts as {0}
  | [(o, seg)], k => seg[sub64 k o]?
  | (o, seg) :: (o', seg') :: rest, k =>
    if o' ≤ k then find ((o', seg') :: rest) k else seg[sub64 k o]?

def emplace {V} : SegMap V → Nat → V → SegMap V
  | [], _, _ => []
  | [(o, seg)], k, v =>
    let vi := sub64 k o
    if seg.length = vi then [(o, seg ++ [v])]
    else if seg.length > vi then [(o, seg.set vi v)]
    else [(o, seg), (k, [v])]
  | (o, seg) :: (o', seg') :: rest, k, v =>
    if o' ≤ k then (o, seg) :: emplace ((o', seg') :: rest) k v
    else
      let vi := sub64 k o
      if seg.length = vi then (o, seg ++ [v]) :: (o', seg') :: rest
      else if seg.length > vi then (o, seg.set vi v) :: (o', seg') :: rest
      else (o, seg) :: (k, [v]) :: (o', seg') :: rest

def size {V} (m : SegMap V) : Nat := (m.map fun p => p.2.length).sum

/-- Segments are sorted, disjoint and non-wrapping: each segment `[o, o+len)` ends at or
    before the next offset, and the last one ends at or before 2^64. -/
def Sorted {V} : SegMap V → Prop
  | [] => False
  | [(o, seg)] => o + seg.length ≤ 2^64
  | (o, seg) :: (o', seg') :: rest => o + seg.length ≤ o' ∧ Sorted ((o', seg') :: rest)

/-- The invariant: first offset is 0 and segments are sorted/disjoint. -/
def Inv {V} (m : SegMap V) : Prop := (∃ seg rest, m = (0, seg) :: rest) ∧ Sorted m

theorem inv_empty {V} : Inv (empty : SegMap V) := by
  refine ⟨⟨[], [], rfl⟩, ?_⟩
  simp [empty, Sorted]

/-- offset of the first segment; `2^64` for a map without segments, which bounds no key -/
def firstOff {V} : SegMap V → Nat
  | [] => 2^64
  | (o, _) :: _ => o

@[simp] theorem firstOff_cons {V} (o : Nat) (seg : List V) (rest : SegMap V) : firstOff ((o, seg) :: rest) = o := rfl

section
variable {V : Type} {o k : Nat} {seg : List V} {rest : SegMap V}

/-- `find` and `emplace` look one segment ahead; with `firstOff` their two non-empty cases are one -/
theorem find_cons (hk : k < 2^64) :
    find ((o, seg) :: rest) k = if firstOff rest ≤ k then find rest k else seg[sub64 k o]? := by
  match rest with
  | [] => simp [find, firstOff, Nat.not_le.mpr hk]
  | (_, _) :: _ => rfl

theorem emplace_cons (v : V) (hk : k < 2^64) :
    emplace ((o, seg) :: rest) k v =
      if firstOff rest ≤ k then (o, seg) :: emplace rest k v
      else if seg.length = sub64 k o then (o, seg ++ [v]) :: rest
      else if seg.length > sub64 k o then (o, seg.set (sub64 k o) v) :: rest
      else (o, seg) :: (k, [v]) :: rest := by
  match rest with
  | [] => simp [emplace, firstOff, Nat.not_le.mpr hk]
  | (_, _) :: _ => rfl

theorem sorted_cons :
    Sorted ((o, seg) :: rest) ↔ o + seg.length ≤ firstOff rest ∧ (rest = [] ∨ Sorted rest) := by
  match rest with
  | [] => simp [Sorted, firstOff]
  | (_, _) :: _ => simp [Sorted, firstOff]

theorem firstOff_emplace (m : SegMap V) (v : V) (hk : k < 2^64) :
    firstOff (emplace m k v) = firstOff m := by
  match m with
  | [] => rfl
  | (o, seg) :: rest => simp only [emplace_cons v hk, apply_ite firstOff, firstOff_cons, ite_self]

theorem sorted_emplace (m : SegMap V) (v : V)
    (hs : Sorted m) (hk : firstOff m ≤ k) (hk64 : k < 2^64) : Sorted (emplace m k v) := by
  induction m with
  | nil => exact hs
  | cons p rest ih =>
    obtain ⟨o, seg⟩ := p
    rw [sorted_cons] at hs
    rw [firstOff_cons] at hk
    rw [emplace_cons v hk64, sub64_of_le hk hk64]
    by_cases h : firstOff rest ≤ k
    · rw [if_pos h, sorted_cons, firstOff_emplace rest v hk64]
      have hr : Sorted rest := hs.2.resolve_left (by rintro rfl; exact absurd h (Nat.not_le.mpr hk64))
      exact ⟨hs.1, .inr (ih hr h)⟩
    · rw [if_neg h]
      repeat' split
      all_goals simp only [sorted_cons, firstOff_cons, List.length_append, List.length_set, List.length_singleton]
      · exact ⟨by omega, hs.2⟩
      · exact hs
      · exact ⟨by omega, .inr ⟨by omega, hs.2⟩⟩

/-- a first segment that differs from `seg` in the cell of `k` alone (`hcell`; `emplace` appends or overwrites that
    cell) gives a map that differs at `k` alone -/
theorem find_head_write {k' : Nat} {seg' : List V} {v : V}
    (hcell : ∀ j, seg'[j]? = if j = k - o then some v else seg[j]?)
    (ho : o ≤ k) (ho' : o ≤ k') (hF : k < firstOff rest) (hk' : k' < 2^64) :
    find ((o, seg') :: rest) k' = if k' = k then some v else find ((o, seg) :: rest) k' := by
  rw [find_cons hk', find_cons hk', sub64_of_le ho' hk', hcell]
  by_cases hkk : k' = k
  · rw [if_pos hkk, hkk, if_neg (Nat.not_le.mpr hF), if_pos rfl]
  · rw [if_neg hkk, if_neg (by omega : k' - o ≠ k - o)]

theorem find_emplace_head {k' : Nat} (v : V) (ho : o ≤ k) (ho' : o ≤ k') (hF : k < firstOff rest)
    (hk : k < 2^64) (hk' : k' < 2^64) :
    find (emplace ((o, seg) :: rest) k v) k' = if k' = k then some v else find ((o, seg) :: rest) k' := by
  rw [emplace_cons v hk, if_neg (Nat.not_le.mpr hF), sub64_of_le ho hk]
  by_cases hl : seg.length = k - o
  · rw [if_pos hl]
    refine find_head_write (fun j => ?_) ho ho' hF hk'
    rw [List.getElem?_append, ← hl]
    rcases Nat.lt_trichotomy j seg.length with hj | rfl | hj
    · rw [if_pos hj, if_neg (Nat.ne_of_lt hj)]
    · rw [if_neg (Nat.lt_irrefl _), if_pos rfl, Nat.sub_self]; rfl
    · rw [if_neg (Nat.lt_asymm hj), if_neg (Nat.ne_of_gt hj), List.getElem?_eq_none (Nat.sub_pos_of_lt hj),
        List.getElem?_eq_none (Nat.le_of_lt hj)]
  · rw [if_neg hl]
    by_cases hg : seg.length > k - o
    · rw [if_pos hg]
      refine find_head_write (fun j => ?_) ho ho' hF hk'
      by_cases hj : j = k - o
      · rw [if_pos hj, hj, List.getElem?_set_self hg]
      · rw [if_neg hj, List.getElem?_set_ne (Ne.symm hj)]
    · rw [if_neg hg, find_cons hk', firstOff_cons, find_cons hk', find_cons hk', sub64_of_le ho' hk']
      rcases Nat.lt_or_ge k' k with hlt | hle
      · rw [if_neg (Nat.not_le.mpr hlt), if_neg (Nat.ne_of_lt hlt), if_neg (Nat.not_le.mpr (Nat.lt_trans hlt hF))]
      · rw [if_pos hle, sub64_of_le hle hk']
        rcases Nat.eq_or_lt_of_le hle with rfl | hgt
        · rw [if_pos rfl, if_neg (Nat.not_le.mpr hF), Nat.sub_self]; rfl
        · rw [if_neg (Nat.ne_of_gt hgt), List.getElem?_eq_none (Nat.sub_pos_of_lt hgt),
            List.getElem?_eq_none (by omega)]

/-- no order among the segments is needed: `find` and `emplace` walk by the offsets alone -/
theorem find_emplace_aux (m : SegMap V) (k' : Nat) (v : V)
    (hk : firstOff m ≤ k) (hk' : firstOff m ≤ k') (hk64 : k < 2^64) (hk'64 : k' < 2^64) :
    find (emplace m k v) k' = if k' = k then some v else find m k' := by
  induction m with
  | nil => exact absurd hk (Nat.not_le.mpr hk64)
  | cons p rest ih =>
    obtain ⟨o, seg⟩ := p
    by_cases h : firstOff rest ≤ k
    · -- `k` belongs further on: the head is kept, and a key that is looked up in it is not `k`
      rw [emplace_cons v hk64, if_pos h, find_cons hk'64, find_cons hk'64, firstOff_emplace rest v hk64]
      by_cases hB : firstOff rest ≤ k'
      · rw [if_pos hB, if_pos hB]; exact ih h hB
      · rw [if_neg hB, if_neg hB, if_neg (by omega)]
    · exact find_emplace_head v hk hk' (Nat.lt_of_not_le h) hk64 hk'64

end

theorem inv_emplace {V} (m : SegMap V) (k : Nat) (v : V) (h : Inv m) (hk64 : k < 2^64) :
    Inv (emplace m k v) := by
  obtain ⟨⟨seg, rest, rfl⟩, hs⟩ := h
  refine ⟨?_, sorted_emplace _ v hs (Nat.zero_le k) hk64⟩
  have h0 := firstOff_emplace ((0, seg) :: rest) v hk64
  match hE : emplace ((0, seg) :: rest) k v with
  | [] => rw [hE] at h0; cases h0
  | (o2, seg2) :: rest2 => rw [hE] at h0; cases h0; exact ⟨seg2, rest2, rfl⟩

/-- **SegmentedMap is a map**, for all 2^64 keys. -/
theorem find_emplace {V} (m : SegMap V) (k k' : Nat) (v : V)
    (h : Inv m) (hk64 : k < 2^64) (hk'64 : k' < 2^64) :
    find (emplace m k v) k' = if k' = k then some v else find m k' := by
  obtain ⟨⟨seg, rest, rfl⟩, hs⟩ := h
  exact find_emplace_aux _ k' v (Nat.zero_le k) (Nat.zero_le k') hk64 hk'64

theorem find_empty {V} (k : Nat) : find (empty : SegMap V) k = none := by
  simp [empty, find]

/-- the two parallel vectors of the C++ object -/
def toVectors {V} (m : SegMap V) : List Nat × List (List V) := (m.map (·.1), m.map (·.2))

end SegMap
end BinlogVerif
