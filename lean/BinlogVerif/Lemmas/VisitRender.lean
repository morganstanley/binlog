import BinlogVerif.Lemmas.VisitRecorder
/-
  The `ToStringVisitor` as a state machine.  `h_*`: what each callback does to the state without a pretty printer; the
  proofs use `hp_*`, the same equations for any printer (VisitRenderPP.lean).  What printing a value does to the state
  is the relation `Rend`; inside a bracket (`Inside`) it determines the state afterwards (`printed`), so that a run of
  siblings is a fold.
-/
namespace BinlogVerif.Mser
open BinlogVerif BinlogVerif.Tag BinlogVerif.Visit BinlogVerif.Pretty

/-- the `ToStringVisitor` with `_pp == nullptr` -/
abbrev tsv : Visitor Ts := toStringVisitor none
abbrev tsvP (tp : Option TimePrinter) : Visitor Ts := toStringVisitor tp

/-- state after `visitFieldBegin` -/
def fieldStart (s : Ts) (n : Bytes) : Ts :=
  { (if n.isEmpty then s.comma else (s.comma).write (n ++ [58, 32])) with state := .normal }
/-- state after `visitFieldEnd` -/
def setSeq (s : Ts) : Ts := { s with state := .seq }
/-- state after `visitStructBegin` of a struct without fields -/
def setFlag (s : Ts) (b : Bool) : Ts := { s with emptyStruct := b }

theorem h_arith (s : Ts) (c : UInt8) (raw : Nat) (input : Bytes) :
    tsv.handle s (.arith c raw) input = .ok ((s.comma).write (arithText c raw), false, input) := rfl
theorem h_seqBegin (s : Ts) (size : Nat) (et : Bytes) (input : Bytes) :
    tsv.handle s (.seqBegin size et) input =
      if et = [99] then
        match takeN size input with
        | .error e => .error e
        | .ok (b, rest) => .ok ((s.comma).write b, true, rest)
      else .ok ((((s.comma).write [91]).enterSeq), false, input) := rfl
theorem h_seqEnd (s : Ts) (input : Bytes) :
    tsv.handle s .seqEnd input = .ok ((s.write [93]).leaveSeq, false, input) := rfl
theorem h_tupBegin (s : Ts) (t : Bytes) (input : Bytes) :
    tsv.handle s (.tupBegin t) input = .ok (((s.comma).write [40]).enterSeq, false, input) := rfl
theorem h_tupEnd (s : Ts) (input : Bytes) :
    tsv.handle s .tupEnd input = .ok ((s.write [41]).leaveSeq, false, input) := rfl
theorem h_varBegin (s : Ts) (d : Nat) (t : Bytes) (input : Bytes) :
    tsv.handle s (.varBegin d t) input = .ok (s, false, input) := rfl
theorem h_varEnd (s : Ts) (input : Bytes) : tsv.handle s .varEnd input = .ok (s, false, input) := rfl
theorem h_null (s : Ts) (input : Bytes) :
    tsv.handle s .null input = .ok ((s.comma).write (strBytes "{null}"), false, input) := rfl
theorem h_enum (s : Ts) (n en : Bytes) (u : UInt8) (value : Bytes) (input : Bytes) :
    tsv.handle s (.enum n en u value) input =
      if en.isEmpty then .ok ((s.comma).write (strBytes "0x" ++ value), false, input)
      else .ok ((s.comma).write en, false, input) := rfl
theorem h_structBegin (s : Ts) (n t : Bytes) (input : Bytes) :
    tsv.handle s (.structBegin n t) input =
      if t.isEmpty then
        .ok (setFlag ((s.comma).write (removePrefixBefore n cLt).1) true, false, input)
      else .ok ((((s.comma).write (removePrefixBefore n cLt).1).write [123, 32]).enterSeq, false, input) := rfl
theorem h_structEnd (s : Ts) (input : Bytes) :
    tsv.handle s .structEnd input =
      if s.emptyStruct then .ok (setFlag s false, false, input)
      else .ok ((s.write [32, 125]).leaveSeq, false, input) := rfl
theorem h_fieldBegin (s : Ts) (n t : Bytes) (input : Bytes) :
    tsv.handle s (.fieldBegin n t) input = .ok (fieldStart s n, false, input) := rfl
theorem h_fieldEnd (s : Ts) (input : Bytes) :
    tsv.handle s .fieldEnd input = .ok (setSeq s, false, input) := rfl
theorem h_repeatBegin (s : Ts) (n : Nat) (t : Bytes) (input : Bytes) :
    tsv.handle s (.repeatBegin n t) input = .ok (s, false, input) := rfl
theorem h_repeatEnd (s : Ts) (n : Nat) (t : Bytes) (input : Bytes) :
    tsv.handle s (.repeatEnd n t) input =
      if n > 1 then
        .ok (s.write (strBytes " ... <repeats " ++ natDec n ++ strBytes " times>"), false, input)
      else .ok (s, false, input) := rfl

/-- what `comma` prints in a state -/
def sepOf : TsState → Bytes
  | .seq => [44, 32]
  | _ => []

@[simp] theorem comma_eq (s : Ts) :
    s.comma = { s with out := s.out ++ sepOf s.state, state := if s.state = .normal then .normal else .seq } := by
  cases s with | mk st _ _ _ => cases st <;> simp [Ts.comma, Ts.write, sepOf]
@[simp] theorem write_out (s : Ts) (b : Bytes) : (s.write b).out = s.out ++ b := rfl
@[simp] theorem write_state (s : Ts) (b : Bytes) : (s.write b).state = s.state := rfl
@[simp] theorem write_depth (s : Ts) (b : Bytes) : (s.write b).seqDepth = s.seqDepth := rfl
@[simp] theorem write_flag (s : Ts) (b : Bytes) : (s.write b).emptyStruct = s.emptyStruct := rfl
theorem write_write (s : Ts) (a b : Bytes) : (s.write a).write b = s.write (a ++ b) := by
  simp [Ts.write]
@[simp] theorem enter_out (s : Ts) : s.enterSeq.out = s.out := rfl
@[simp] theorem enter_state (s : Ts) : s.enterSeq.state = .seqBegin := rfl
@[simp] theorem enter_depth (s : Ts) : s.enterSeq.seqDepth = s.seqDepth + 1 := rfl
@[simp] theorem enter_flag (s : Ts) : s.enterSeq.emptyStruct = s.emptyStruct := rfl
@[simp] theorem leave_out (s : Ts) : s.leaveSeq.out = s.out := rfl
@[simp] theorem leave_state (s : Ts) :
    s.leaveSeq.state = if s.seqDepth - 1 = 0 then .normal else .seq := rfl
@[simp] theorem leave_depth (s : Ts) : s.leaveSeq.seqDepth = s.seqDepth - 1 := rfl
@[simp] theorem leave_flag (s : Ts) : s.leaveSeq.emptyStruct = s.emptyStruct := rfl

@[simp] theorem setSeq_out (s : Ts) : (setSeq s).out = s.out := rfl
@[simp] theorem setSeq_state (s : Ts) : (setSeq s).state = .seq := rfl
@[simp] theorem setSeq_depth (s : Ts) : (setSeq s).seqDepth = s.seqDepth := rfl
@[simp] theorem setSeq_flag (s : Ts) : (setSeq s).emptyStruct = s.emptyStruct := rfl
@[simp] theorem setFlag_out (s : Ts) (b : Bool) : (setFlag s b).out = s.out := rfl
@[simp] theorem setFlag_state (s : Ts) (b : Bool) : (setFlag s b).state = s.state := rfl
@[simp] theorem setFlag_depth (s : Ts) (b : Bool) : (setFlag s b).seqDepth = s.seqDepth := rfl
@[simp] theorem setFlag_flag (s : Ts) (b : Bool) : (setFlag s b).emptyStruct = b := rfl
@[simp] theorem fieldStart_state (s : Ts) (n : Bytes) : (fieldStart s n).state = .normal := rfl
theorem fieldStart_eq (s : Ts) (n : Bytes) :
    fieldStart s n = { s with out := s.out ++ sepOf s.state ++ (if n.isEmpty then [] else n ++ [58, 32]),
                              state := .normal } := by
  unfold fieldStart; split <;> simp [Ts.write]

/-- `s'` is `s` after printing one value whose text is `text`:
    the separator demanded by the state, then the text; depth and flag restored; inside a bracket
    (state not `normal`, depth not 0) the state is `seq` afterwards ("a sibling was printed"), at
    top level it is `normal` again. -/
def Rend (s s' : Ts) (text : Bytes) : Prop :=
  s'.out = s.out ++ sepOf s.state ++ text ∧ s'.seqDepth = s.seqDepth ∧ s'.emptyStruct = false
    ∧ (s.state ≠ .normal → s.seqDepth ≠ 0 → s'.state = .seq)
    ∧ (s.state = .normal → s.seqDepth = 0 → s'.state = .normal)

theorem Rend.leaf {s : Ts} {text : Bytes} (hf : s.emptyStruct = false) :
    Rend s ((s.comma).write text) text :=
  ⟨by simp, by simp, by simp [hf], fun hn _ => by simp [hn], fun hn _ => by simp [hn]⟩

/-- a struct without fields: `structBegin` sets the flag, `structEnd` finds it set and clears it -/
theorem Rend.setFlag {s s' : Ts} {text : Bytes} (r : Rend s s' text) :
    Rend s (setFlag (setFlag s' true) false) text :=
  ⟨r.1, r.2.1, rfl, r.2.2.2⟩

theorem Rend.bracket {s s2 : Ts} {op body cl : Bytes}
    (hout : s2.out = s.out ++ sepOf s.state ++ op ++ body) (hd : s2.seqDepth = s.seqDepth + 1)
    (hfl : s2.emptyStruct = false) :
    Rend s ((s2.write cl).leaveSeq) (op ++ body ++ cl) := by
  refine ⟨?_, ?_, ?_, ?_, ?_⟩
  · simp [hout, List.append_assoc]
  · simp [hd]
  · simp [hfl]
  · intro _ h0
    simp [hd, h0]
  · intro _ h0
    simp [hd, h0]

/-- inside a bracket: a sibling may follow, and the state after a value is known exactly -/
structure Inside (s : Ts) : Prop where
  state : s.state ≠ .normal
  depth : 1 ≤ s.seqDepth
  flag : s.emptyStruct = false

theorem Inside.enter {s : Ts} (op : Bytes) (h0 : 0 ≤ s.seqDepth) (hf : s.emptyStruct = false) :
    Inside (((s.comma).write op).enterSeq) :=
  ⟨by simp, by simp; omega, by simp [hf]⟩

/-- `s`, inside a bracket, after one more value with text `x` was printed -/
def printed (s : Ts) (x : Bytes) : Ts :=
  { state := .seq, seqDepth := s.seqDepth, emptyStruct := false, out := s.out ++ sepOf s.state ++ x }

theorem Inside.after {s : Ts} (h : Inside s) (x : Bytes) : Inside (printed s x) :=
  ⟨nofun, h.depth, rfl⟩

/-- inside a bracket `Rend` determines the state afterwards; `h` is the induction hypothesis of `rendersAt` applied
    to all but the two conditions on the state -/
theorem Rend.inside {r : Outcome (Ts × Bytes)} {s : Ts} {rest x : Bytes} (hi : Inside s)
    (h : 0 ≤ s.seqDepth → s.emptyStruct = false → ∃ s', r = .ok (s', rest) ∧ Rend s s' x) :
    r = .ok (printed s x, rest) := by
  have hd := hi.depth
  obtain ⟨s', rfl, o, d, f, st, _⟩ := h (by omega) hi.flag
  have e := st hi.state (by omega)
  cases s'
  simp only at o d f e
  subst o d f e
  rfl

/-- a field is its name, then its value printed as at top level; `visitFieldEnd` restores the state -/
theorem Rend.field {s s1 : Ts} {n text : Bytes} (r : Rend (fieldStart s n) s1 text) :
    setSeq s1 = printed s ((if n.isEmpty then [] else n ++ [58, 32]) ++ text) := by
  obtain ⟨o, d, f, _, _⟩ := r
  cases s1
  simp only [fieldStart_eq] at o d f
  subst o d f
  simp [setSeq, printed, sepOf, List.append_assoc]

def joinSep : List Bytes → Bytes
  | [] => []
  | x :: xs => [44, 32] ++ x ++ joinSep xs

/-- text of a run of siblings starting in state `st` -/
def joinFrom (st : TsState) : List Bytes → Bytes
  | [] => []
  | x :: xs => sepOf st ++ x ++ joinSep xs

theorem joinComma_cons (x : Bytes) (xs : List Bytes) : joinComma (x :: xs) = x ++ joinSep xs := by
  induction xs generalizing x with
  | nil => simp [joinComma, joinSep]
  | cons y ys ih => simp [joinComma, ih y, joinSep]

theorem joinComma_eq (l : List Bytes) : joinComma l = joinFrom .seqBegin l := by
  cases l with
  | nil => simp [joinComma, joinFrom]
  | cons x xs => simp [joinComma_cons, joinFrom, sepOf]

theorem joinFrom_cons (st : TsState) (x : Bytes) (xs : List Bytes) :
    joinFrom st (x :: xs) = sepOf st ++ x ++ joinFrom .seq xs := by
  cases xs <;> simp [joinFrom, joinSep, sepOf]

/-- `s'` is `s` after printing the run of siblings `texts` inside a bracket -/
def Joined (s s' : Ts) (texts : List Bytes) : Prop :=
  s'.out = s.out ++ joinFrom s.state texts ∧ s'.seqDepth = s.seqDepth ∧ s'.emptyStruct = false ∧ s'.state ≠ .normal

/-- each value leaves the state `seq`, which makes the next one start with a comma -/
theorem Joined.foldl {s : Ts} (hst : s.state ≠ .normal) (hf : s.emptyStruct = false) (xs : List Bytes) :
    Joined s (xs.foldl printed s) xs := by
  cases xs with
  | nil => exact ⟨by simp [joinFrom], rfl, hf, hst⟩
  | cons x xs =>
    obtain ⟨o, d, f, st⟩ := Joined.foldl (s := printed s x) nofun rfl xs
    exact ⟨by rw [List.foldl_cons, o, joinFrom_cons]; simp [printed, List.append_assoc], d, f, st⟩

theorem Rend.brackets {s : Ts} (op cl : Bytes) (xs : List Bytes) (h0 : 0 ≤ s.seqDepth) (hf : s.emptyStruct = false) :
    Rend s (((xs.foldl printed (((s.comma).write op).enterSeq)).write cl).leaveSeq) (op ++ joinComma xs ++ cl) := by
  have hi := Inside.enter op h0 hf
  obtain ⟨o, d, f, _⟩ := Joined.foldl hi.state hi.flag xs
  exact joinComma_eq xs ▸ Rend.bracket (by simpa [List.append_assoc] using o) (by simpa using d) f

end BinlogVerif.Mser
