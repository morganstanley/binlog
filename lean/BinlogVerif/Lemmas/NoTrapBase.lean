import BinlogVerif.Reader.EventStream
/-
  C09 support.  On the `bread` path the model raises `.trap` in one place only, the assertion of `Time.printTwoDigits`
  (every other access is a checked read or a total list operation); the closure lemmas of the three `NoTrap*` files
  carry "that assertion is not reached" (`Time.printTime_total` with `Time.brokenDown_twoDigit`) through every function
  of the reader, for arbitrary visitors too.
-/
namespace BinlogVerif

/-- an outcome that is not a trap: a value, or one of the exceptions thrown on purpose -/
def NoTrap {α : Type} (o : Outcome α) : Prop := ∀ w, o ≠ .error (.trap w)

namespace NoTrap

theorem ok {α : Type} {a : α} : NoTrap (.ok a : Outcome α) := nofun

/- `pure`, `throw` restate `ok`, `error` for the terms a `do` block leaves: `no_trap_steps` compares up to reducible
   unfolding only, which does not take `pure a` to `.ok a`. -/
theorem pure {α : Type} {a : α} : NoTrap (Pure.pure a : Outcome α) := ok

theorem error {α : Type} {e : Err} (h : e.isTrap = false) : NoTrap (.error e : Outcome α) :=
  fun _ he => by cases he; cases h

theorem overflow {α : Type} : NoTrap (.error .overflow : Outcome α) := error rfl
theorem invalidSource {α : Type} : NoTrap (.error .invalidSource : Outcome α) := error rfl
theorem truncSize {α : Type} : NoTrap (.error .truncSize : Outcome α) := error rfl
theorem truncPayload {α : Type} : NoTrap (.error .truncPayload : Outcome α) := error rfl
theorem recursion {α : Type} : NoTrap (.error .recursion : Outcome α) := error rfl
theorem invalidTag {α : Type} : NoTrap (.error .invalidTag : Outcome α) := error rfl
theorem sizeMismatch {α : Type} : NoTrap (.error .sizeMismatch : Outcome α) := error rfl

theorem throw {α : Type} {e : Err} (h : e.isTrap = false) : NoTrap (throw e : Outcome α) := error h

/-- the form `C09.c09_error_is_std` states -/
theorem not_isTrap {α : Type} {o : Outcome α} {e : Err} (ho : NoTrap o) (h : o = .error e) :
    e.isTrap = false := by
  cases e with
  | trap w => exact absurd h (ho w)
  | _ => rfl

theorem rethrow {α β : Type} {o : Outcome α} {e : Err} (h : o = .error e) (ho : NoTrap o) :
    NoTrap (.error e : Outcome β) :=
  error (ho.not_isTrap h)

theorem bind {α β : Type} {o : Outcome α} {f : α → Outcome β} (ho : NoTrap o)
    (hf : ∀ a, NoTrap (f a)) : NoTrap (o >>= f) := by
  cases o with
  | error e => exact rethrow rfl ho
  | ok a => exact hf a

theorem ite {α : Type} {c : Prop} [Decidable c] {a b : Outcome α} (ha : c → NoTrap a)
    (hb : ¬c → NoTrap b) : NoTrap (if c then a else b) := by
  split
  · exact ha ‹c›
  · exact hb ‹¬c›

end NoTrap

/--
  `NoTrap` goals, by the head of the outcome term.  A value or a purpose-made exception is no trap; `if`, `>>=` and
  `match` are entered (`ite`, `bind`, `split`); an error handed on by a `match` is the matched computation's own
  (`rethrow`, with the equation `split` or `fun_induction` leaves in the context), and that computation is as a rule a
  call, so the facts are tried on it at once; a call is covered by one of `facts` or by an induction hypothesis.  The
  facts are tried up to reducible unfolding only: letting a fact unfold model functions to see that it does not fit is
  slow to check, and so is every try that fails, hence the commonest heads first.
-/
syntax "no_trap_steps" " [" term,* "]" : tactic
macro_rules
  | `(tactic| no_trap_steps [$facts,*]) =>
    `(tactic|
      repeat' first
        | (with_reducible apply NoTrap.ite) <;> intro _
        | split
        | with_reducible first
          | exact NoTrap.ok
          | exact NoTrap.pure
          | refine NoTrap.rethrow ‹_ = Except.error _› ?_ <;> try first $[| exact $facts]*
        | (with_reducible refine NoTrap.error ?_) <;> exact rfl
        | (with_reducible apply NoTrap.bind) <;> intros
        | with_reducible first $[| exact $facts]* | assumption)

theorem takeN_noTrap {n : Nat} {r : Bytes} : NoTrap (takeN n r) :=
  .ite (fun _ => .ok) (fun _ => .overflow)

theorem readU_noTrap {n : Nat} {r : Bytes} : NoTrap (readU n r) :=
  fun _ h => nomatch readU_error_overflow h

theorem decStr_noTrap {r : Bytes} : NoTrap (decStr r) :=
  .bind readU_noTrap fun _ => takeN_noTrap

theorem decSource_noTrap {r : Bytes} : NoTrap (decSource r) :=
  .bind readU_noTrap fun _ => .bind readU_noTrap fun _ => .bind decStr_noTrap fun _ =>
  .bind decStr_noTrap fun _ => .bind decStr_noTrap fun _ => .bind readU_noTrap fun _ =>
  .bind decStr_noTrap fun _ => .bind decStr_noTrap fun _ => .pure

theorem decWriterProp_noTrap {r : Bytes} : NoTrap (decWriterProp r) :=
  .bind readU_noTrap fun _ => .bind decStr_noTrap fun _ => .bind readU_noTrap fun _ => .pure

theorem decClockSync_noTrap {r : Bytes} : NoTrap (decClockSync r) :=
  .bind readU_noTrap fun _ => .bind readU_noTrap fun _ => .bind readU_noTrap fun _ =>
  .bind readU_noTrap fun _ => .bind decStr_noTrap fun _ => .pure

theorem processEntryCore_noTrap (st : ReaderState) (payload : Bytes) :
    NoTrap (processEntryCore st payload) := by
  unfold processEntryCore
  no_trap_steps [readU_noTrap, decSource_noTrap, decWriterProp_noTrap,
    decClockSync_noTrap, NoTrap.throw rfl]

/-- stated with `isTrap`, as `C09.c09_error_is_std` is; `NoTrap.not_isTrap` leads there from `NoTrap` -/
def ItemsNoTrap (items : List Item) : Prop := ∀ e, Item.error e ∈ items → e.isTrap = false

theorem ItemsNoTrap.nil : ItemsNoTrap [] := fun _ h => nomatch h

theorem ItemsNoTrap.error {e : Err} (h : e.isTrap = false) : ItemsNoTrap [.error e] := by
  intro e' he
  cases List.mem_singleton.mp he
  exact h

theorem ItemsNoTrap.append {a b : List Item} (ha : ItemsNoTrap a) (hb : ItemsNoTrap b) :
    ItemsNoTrap (a ++ b) :=
  fun e he => (List.mem_append.mp he).elim (ha e) (hb e)

theorem stepEntry_noTrap {st st' : ReaderState} {p : Bytes} {items : List Item}
    (h : stepEntry st p = some (items, st')) : ItemsNoTrap items := by
  unfold stepEntry processEntry at h
  rcases hp : processEntryCore st p with e | ⟨_ | _ | ev, s⟩ <;> rw [hp] at h <;> cases h
  · exact .error ((processEntryCore_noTrap st p).not_isTrap hp)
  · exact .nil
  · exact fun e he => by cases List.mem_singleton.mp he

theorem readAll_noTrap (st : ReaderState) (ps : List Bytes) : ItemsNoTrap (readAll st ps) := by
  fun_induction readAll st ps with
  | case1 | case2 => exact .nil
  | case3 st p ps items st' hp ih => exact (stepEntry_noTrap hp).append ih

end BinlogVerif
