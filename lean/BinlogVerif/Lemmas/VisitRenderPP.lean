import BinlogVerif.Lemmas.SpecialStruct
/-
  "Render refines" of C07 (header of Props/C07.lean) for both configurations of the `ToStringVisitor` at once: with a
  pretty printer (`tp = some _`, as in `bread`) or without, it prints `rendT tp`.  The induction is that of `visitsAt`
  (VisitRecorder.lean).
-/
namespace BinlogVerif.Mser
open BinlogVerif BinlogVerif.Tag BinlogVerif.Visit BinlogVerif.Pretty

section
variable (tp : Option TimePrinter)

theorem hp_arith (s : Ts) (c : UInt8) (raw : Nat) (input : Bytes) :
    (tsvP tp).handle s (.arith c raw) input = .ok ((s.comma).write (arithText c raw), false, input) := rfl
theorem hp_seqBegin (s : Ts) (size : Nat) (et : Bytes) (input : Bytes) :
    (tsvP tp).handle s (.seqBegin size et) input =
      if et = [99] then
        match takeN size input with
        | .error e => .error e
        | .ok (b, rest) => .ok ((s.comma).write b, true, rest)
      else .ok ((((s.comma).write [91]).enterSeq), false, input) := rfl
theorem hp_seqEnd (s : Ts) (input : Bytes) :
    (tsvP tp).handle s .seqEnd input = .ok ((s.write [93]).leaveSeq, false, input) := rfl
theorem hp_tupBegin (s : Ts) (t : Bytes) (input : Bytes) :
    (tsvP tp).handle s (.tupBegin t) input = .ok (((s.comma).write [40]).enterSeq, false, input) := rfl
theorem hp_tupEnd (s : Ts) (input : Bytes) :
    (tsvP tp).handle s .tupEnd input = .ok ((s.write [41]).leaveSeq, false, input) := rfl
theorem hp_varBegin (s : Ts) (d : Nat) (t : Bytes) (input : Bytes) :
    (tsvP tp).handle s (.varBegin d t) input = .ok (s, false, input) := rfl
theorem hp_varEnd (s : Ts) (input : Bytes) : (tsvP tp).handle s .varEnd input = .ok (s, false, input) := rfl
theorem hp_null (s : Ts) (input : Bytes) :
    (tsvP tp).handle s .null input = .ok ((s.comma).write (strBytes "{null}"), false, input) := rfl
theorem hp_enum (s : Ts) (n en : Bytes) (u : UInt8) (value : Bytes) (input : Bytes) :
    (tsvP tp).handle s (.enum n en u value) input =
      if en.isEmpty then .ok ((s.comma).write (strBytes "0x" ++ value), false, input)
      else .ok ((s.comma).write en, false, input) := rfl
theorem hp_structEnd (s : Ts) (input : Bytes) :
    (tsvP tp).handle s .structEnd input =
      if s.emptyStruct then .ok (setFlag s false, false, input)
      else .ok ((s.write [32, 125]).leaveSeq, false, input) := rfl
theorem hp_fieldBegin (s : Ts) (n t : Bytes) (input : Bytes) :
    (tsvP tp).handle s (.fieldBegin n t) input = .ok (fieldStart s n, false, input) := rfl
theorem hp_fieldEnd (s : Ts) (input : Bytes) :
    (tsvP tp).handle s .fieldEnd input = .ok (setSeq s, false, input) := rfl
theorem hp_repeatBegin (s : Ts) (n : Nat) (t : Bytes) (input : Bytes) :
    (tsvP tp).handle s (.repeatBegin n t) input = .ok (s, false, input) := rfl
theorem hp_repeatEnd (s : Ts) (n : Nat) (t : Bytes) (input : Bytes) :
    (tsvP tp).handle s (.repeatEnd n t) input =
      if n > 1 then
        .ok (s.write (strBytes " ... <repeats " ++ natDec n ++ strBytes " times>"), false, input)
      else .ok (s, false, input) := rfl
end

/-- the rendering documented for a `ToStringVisitor` configured with `tp` -/
def rendT (tp : Option TimePrinter) : Ty → Val → Bytes := match tp with | none => render | some _ => renderPP
def rendAllT (tp : Option TimePrinter) : Ty → List Val → List Bytes :=
  match tp with | none => renderAll | some _ => renderPPAll
def rendListT (tp : Option TimePrinter) : List Ty → List Val → List Bytes :=
  match tp with | none => renderList | some _ => renderPPList
def rendFieldsT (tp : Option TimePrinter) : List (Bytes × Ty) → List Val → List Bytes :=
  match tp with | none => renderFields | some _ => renderPPFields
def rendNthT (tp : Option TimePrinter) : List Ty → Nat → Val → Bytes :=
  match tp with | none => renderNth | some _ => renderPPNth

section
variable (tp : Option TimePrinter)

theorem rendT_arith (c : UInt8) (raw : Nat) : rendT tp (.arith c) (.num raw) = arithText c raw := by
  cases tp <;> simp only [rendT, render, renderPP]
theorem rendT_null : rendT tp .null .nul = strBytes "{null}" := by
  cases tp <;> simp only [rendT, render, renderPP]
theorem rendT_enum (u : UInt8) (n : Bytes) (ens : List (Bytes × Bytes)) (raw : Nat) :
    rendT tp (.enum u n ens) (.num raw) =
      if (lookupEnumerator (integerToHex u raw) ens).isEmpty then strBytes "0x" ++ integerToHex u raw
      else lookupEnumerator (integerToHex u raw) ens := by
  cases tp <;> simp only [rendT, render, renderPP]
theorem rendT_seq (e : Ty) (vs : List Val) :
    rendT tp (.seq e) (.seq vs) =
      if isCharTy e = true then charsOf vs
      else if vs.length > repeatThreshold ∧ singularTy e = true then
        match vs with
        | v :: _ => [91] ++ (rendT tp e v ++ (strBytes " ... <repeats " ++ natDec vs.length ++ strBytes " times>")) ++ [93]
        | [] => [91, 93]
      else [91] ++ joinComma (rendAllT tp e vs) ++ [93] := by
  cases tp <;> cases vs <;>
    simp only [rendT, rendAllT, render, renderPP, charsOf, Bool.and_eq_true, decide_eq_true_eq, List.append_assoc]
theorem rendT_tup (es : List Ty) (vs : List Val) :
    rendT tp (.tup es) (.tup vs) = [40] ++ joinComma (rendListT tp es vs) ++ [41] := by
  cases tp <;> simp only [rendT, rendListT, render, renderPP]
theorem rendT_var (alts : List Ty) (i : Nat) (v : Val) : rendT tp (.var alts) (.alt i v) = rendNthT tp alts i v := by
  cases tp <;> simp only [rendT, rendNthT, render, renderPP]

theorem rendAllT_nil (e : Ty) : rendAllT tp e [] = [] := by
  cases tp <;> simp only [rendAllT, renderAll, renderPPAll]
theorem rendAllT_cons (e : Ty) (v : Val) (vs : List Val) :
    rendAllT tp e (v :: vs) = rendT tp e v :: rendAllT tp e vs := by
  cases tp <;> simp only [rendAllT, rendT, renderAll, renderPPAll]
theorem rendListT_nil : rendListT tp [] [] = [] := by
  cases tp <;> simp only [rendListT, renderList, renderPPList]
theorem rendListT_cons (t : Ty) (ts : List Ty) (v : Val) (vs : List Val) :
    rendListT tp (t :: ts) (v :: vs) = rendT tp t v :: rendListT tp ts vs := by
  cases tp <;> simp only [rendListT, rendT, renderList, renderPPList]
theorem rendFieldsT_nil : rendFieldsT tp [] [] = [] := by
  cases tp <;> simp only [rendFieldsT, renderFields, renderPPFields]
theorem rendFieldsT_cons (n : Bytes) (t : Ty) (fs : List (Bytes × Ty)) (v : Val) (vs : List Val) :
    rendFieldsT tp ((n, t) :: fs) (v :: vs) =
      ((if n.isEmpty then [] else n ++ [58, 32]) ++ rendT tp t v) :: rendFieldsT tp fs vs := by
  cases tp <;> simp only [rendFieldsT, rendT, renderFields, renderPPFields]
theorem rendNthT_zero (t : Ty) (ts : List Ty) (v : Val) : rendNthT tp (t :: ts) 0 v = rendT tp t v := by
  cases tp <;> simp only [rendNthT, rendT, renderNth, renderPPNth]
theorem rendNthT_succ (t : Ty) (ts : List Ty) (i : Nat) (v : Val) :
    rendNthT tp (t :: ts) (i + 1) v = rendNthT tp ts i v := by
  cases tp <;> simp only [rendNthT, renderNth, renderPPNth]

/-- `structBegin` is the only callback that looks at the pretty printer: either that prints the struct and the members
    are skipped, or it declines, the callback is that of the visitor without a printer (`h_structBegin`) and the
    struct is printed member by member -/
theorem structBegin_cases (n : Bytes) (fs : List (Bytes × Ty)) (vs : List Val) (rest : Bytes)
    (hv : hasTyFields fs vs = true) (hso : tp.isSome = true → specialOk (.struct n fs) = true) :
    (∀ s, (tsvP tp).handle s (.structBegin n (tagFields fs)) (encodeFields fs vs ++ rest)
        = .ok ((s.comma).write (rendT tp (.struct n fs) (.tup vs)), true, rest))
    ∨ ((tp.isSome = true → specialOkFields fs = true)
      ∧ rendT tp (.struct n fs) (.tup vs) =
          (if fs.isEmpty then (removePrefixBefore n cLt).1
           else (removePrefixBefore n cLt).1 ++ [123, 32] ++ joinComma (rendFieldsT tp fs vs) ++ [32, 125])
      ∧ ∀ s input, (tsvP tp).handle s (.structBegin n (tagFields fs)) input
          = tsv.handle s (.structBegin n (tagFields fs)) input) := by
  cases tp with
  | none => exact .inr ⟨by simp, by simp [rendT, rendFieldsT, render], fun s input => rfl⟩
  | some pp =>
    have hso := hso rfl
    by_cases hsp : specialShape n fs = true
    · obtain ⟨b, hb, hps⟩ := special_handled pp rest hsp hv
      have hr : rendT (some pp) (.struct n fs) (.tup vs) = b := by simp only [rendT]; rw [renderPP, hb]
      exact .inl fun s => by rw [hr]; dsimp only [tsvP, toStringVisitor]; rw [hps]
    · have hsf : specialShape n fs = false := by simpa using hsp
      simp only [specialOk, hsf, Bool.false_or, Bool.and_eq_true] at hso
      refine .inr ⟨fun _ => hso.2, ?_, fun s input => ?_⟩
      · simp only [rendT, rendFieldsT]
        rw [renderPP, special_none vs hsf hso.1]
      · dsimp only [tsvP, tsv, toStringVisitor]
        rw [printStruct_declines pp input hso.1]

variable (full : Bytes)

/-- `full` as in `VisitsAt`; why `0 ≤ s.seqDepth` (an `Int`) is needed: header of Props/C07.lean -/
def RendersAt (m : Nat) : Prop :=
  ∀ (t : Ty) (v : Val) (s : Ts) (rest : Bytes), TyOk t = true → hasTy t v = true → depth t < m →
    ESNames full (emptyStructNames t) → (tp.isSome = true → specialOk t = true) →
    0 ≤ s.seqDepth → s.emptyStruct = false →
    ∃ s', visitImpl (tsvP tp) full m (tag t) s (encode t v ++ rest) = .ok (s', rest) ∧ Rend s s' (rendT tp t v)

section
variable {tp full} {m : Nat} (ih : RendersAt tp full m)
include ih

theorem rend_all_of (e : Ty) (vs : List Val) (s : Ts) (rest : Bytes)
    (h : TyOk e = true) (hv : hasTyAll e vs = true) (hd : depth e < m)
    (he : ESNames full (emptyStructNames e)) (hso : tp.isSome = true → specialOk e = true) (hi : Inside s) :
    loopN (fun (p : Ts × Bytes) => visitImpl (tsvP tp) full m (tag e) p.1 p.2) vs.length
        (s, encodeAll e vs ++ rest) = .ok ((rendAllT tp e vs).foldl printed s, rest) := by
  induction vs generalizing s with
  | nil => simp [loopN, encodeAll, rendAllT_nil]
  | cons v vs ihv =>
    simp only [hasTyAll, Bool.and_eq_true] at hv
    simp only [List.length_cons, loopN, encodeAll, List.append_assoc, Rend.inside hi (ih e v s _ h hv.1 hd he hso),
      ihv _ hv.2 (hi.after _), rendAllT_cons, List.foldl_cons]

theorem rend_list_of (es : List Ty) (vs : List Val) (f : Nat) (s : Ts) (rest : Bytes)
    (hfu : es.length < f) (h : TyOkList es = true) (hv : hasTyList es vs = true)
    (hd : depthList es < m) (he : ESNames full (emptyStructNamesList es))
    (hso : tp.isSome = true → specialOkList es = true) (hi : Inside s) :
    visitImpl.tupLoop (tsvP tp) full m f (tagList es) s (encodeList es vs ++ rest)
      = .ok ((rendListT tp es vs).foldl printed s, rest) := by
  induction es generalizing vs f s with
  | nil => cases hasTyList_nil hv; simp [tupLoop_nil, encodeList, rendListT_nil]
  | cons t ts iht =>
    obtain ⟨v, vs, rfl, hv1, hv2⟩ := hasTyList_cons hv
    simp only [TyOkList, Bool.and_eq_true] at h
    simp only [emptyStructNamesList, ESNames.append_iff] at he
    simp only [specialOkList, Bool.and_eq_true] at hso
    rw [depthList_cons, Nat.max_lt] at hd
    simp only [List.length_cons] at hfu
    rw [tupLoop_cons (Nat.zero_lt_of_lt hfu) _ _ (TyOkN.of_tyOk h.1)]
    simp only [encodeList, List.append_assoc, Rend.inside hi (ih t v s _ h.1 hv1 hd.1 he.1 fun x => (hso x).1), andThen,
      iht vs (f - 1) _ (Nat.lt_sub_of_add_lt hfu) h.2 hv2 hd.2 he.2 (fun x => (hso x).2) (hi.after _),
      rendListT_cons, List.foldl_cons]

theorem rend_fields_of (fs : List (Bytes × Ty)) (vs : List Val) (f : Nat) (s : Ts) (rest : Bytes)
    (hfu : fs.length < f) (h : TyOkFields fs = true) (hv : hasTyFields fs vs = true)
    (hd : depthFields fs < m ∨ fs = []) (he : ESNames full (emptyStructNamesFields fs))
    (hso : tp.isSome = true → specialOkFields fs = true) (hi : Inside s) :
    visitImpl.fieldLoop (tsvP tp) full m f (tagFields fs) s (encodeFields fs vs ++ rest)
      = .ok ((rendFieldsT tp fs vs).foldl printed s, rest) := by
  induction fs generalizing vs f s with
  | nil => cases hasTyFields_nil hv; simp [fieldLoop_nil, encodeFields, rendFieldsT_nil]
  | cons a fs ihf =>
    obtain ⟨n, t⟩ := a
    obtain ⟨v, vs, rfl, hv1, hv2⟩ := hasTyFields_cons hv
    simp only [TyOkFields, Bool.and_eq_true] at h
    simp only [emptyStructNamesFields, ESNames.append_iff] at he
    simp only [specialOkFields, Bool.and_eq_true] at hso
    have hd' := depthFields_cons_lt hd
    simp only [List.length_cons] at hfu
    -- the value of a field is printed as at top level: what state it leaves is not known, `visitFieldEnd` sets it
    obtain ⟨s1, e1, r1⟩ := ih t v (fieldStart s n) (encodeFields fs vs ++ rest) h.1.2 hv1 hd'.1 he.1
      (fun x => (hso x).1) (by have := hi.depth; simp only [fieldStart_eq]; omega) (by simp only [fieldStart_eq, hi.flag])
    rw [fieldLoop_cons (Nat.zero_lt_of_lt hfu) _ _ _ h.1.1 (TyOkN.of_tyOk h.1.2)]
    simp only [encodeFields, List.append_assoc, call, hp_fieldBegin, e1, andThen, hp_fieldEnd, r1.field,
      ihf vs (f - 1) _ (Nat.lt_sub_of_add_lt hfu) h.2 hv2 hd'.2 he.2 (fun x => (hso x).2) (hi.after _),
      rendFieldsT_cons, List.foldl_cons]

theorem rend_nth_of (alts : List Ty) (i : Nat) (v : Val) (s : Ts) (rest : Bytes)
    (h : ∀ t ∈ alts, TyOkN t = true) (hv : hasTyNth alts i v = true)
    (hd : depthList alts < m) (he : ESNames full (emptyStructNamesList alts))
    (hso : tp.isSome = true → specialOkList alts = true)
    (h0 : 0 ≤ s.seqDepth) (hf : s.emptyStruct = false) :
    ∃ s', (if tag (nthTy alts i) = [cZero] then
          (.ok ((s.comma).write (strBytes "{null}"), encodeNth alts i v ++ rest) : Outcome _)
        else visitImpl (tsvP tp) full m (tag (nthTy alts i)) s (encodeNth alts i v ++ rest)) = .ok (s', rest)
      ∧ Rend s s' (rendNthT tp alts i v) := by
  induction alts generalizing i with
  | nil => simp [hasTyNth.eq_def] at hv
  | cons t ts iha =>
    simp only [emptyStructNamesList, ESNames.append_iff] at he
    simp only [specialOkList, Bool.and_eq_true] at hso
    rw [depthList_cons, Nat.max_lt] at hd
    cases i with
    | zero =>
      simp only [hasTyNth] at hv
      simp only [nthTy, encodeNth, rendNthT_zero]
      rcases tyOkN_cases (h t (by simp)) with rfl | ht
      · cases v <;> simp [hasTy.eq_def] at hv
        simp only [tag_null, if_true, encode, List.nil_append, rendT_null]
        exact ⟨_, rfl, Rend.leaf hf⟩
      · rw [if_neg (tag_ne_zero ht)]
        exact ih t v s rest ht hv hd.1 he.1 (fun x => (hso x).1) h0 hf
    | succ i =>
      simp only [hasTyNth] at hv
      simp only [nthTy, encodeNth, rendNthT_succ]
      exact iha i (fun x hx => h x (by simp [hx])) hv hd.2 he.2 (fun x => (hso x).2)

end

theorem rendersAt : ∀ m, RendersAt tp full m := by
  intro m
  induction m with
  | zero => intro t v s rest _ _ hd; omega
  | succ m ih =>
    intro t v s rest h hv hd he hso h0 hf
    have ty := Typed.of_hasTy h hv hd he
    clear h hv hd he
    cases ty with
    | arith hs hr =>
      simp only [visitImpl_arith hs hr, call, ret, hp_arith, rendT_arith]
      exact ⟨_, rfl, Rend.leaf hf⟩
    | @seq e vs h hv hl hd he =>
      simp only [visitImpl_seq h hl hd he, bracket, hp_seqBegin]
      by_cases hch : tag e = [99]
      · cases (tag_eq_arith h 99).1 hch
        have henc := encodeAll_char vs hv
        rw [if_pos hch, takeN_append vs.length (encodeAll (.arith 99) vs) rest (by simp [henc, charsOf])]
        simp only [if_true, rendT_seq, isCharTy, henc]
        exact ⟨_, rfl, Rend.leaf hf⟩
      · have hce : ¬ isCharTy e = true := fun hc => hch (isCharTy_eq hc ▸ rfl)
        have hi := Inside.enter [91] h0 hf
        rw [if_neg hch]
        simp only [Bool.false_eq_true, if_false, seqBody]
        by_cases hc : vs.length > repeatThreshold ∧ singularTy e = true
        · obtain ⟨v0, vs', rfl⟩ := List.exists_cons_of_length_pos (Nat.zero_lt_of_lt hc.1)
          simp only [hasTyAll, Bool.and_eq_true] at hv
          have e2 := Rend.inside hi (ih e v0 _ rest h hv.1 hd he hso)
          rw [encode_singular e v0 hc.2, List.nil_append] at e2
          have hgt : (v0 :: vs').length > 1 := by have := hc.1; simp only [repeatThreshold] at this; omega
          simp only [if_pos hc, encodeAll_singular e _ hc.2, List.nil_append, call, ret, andThen, hp_repeatBegin, e2,
            hp_repeatEnd, if_pos hgt, hp_seqEnd, rendT_seq, if_neg hce]
          exact ⟨_, rfl, Rend.bracket (by simp [printed, sepOf, List.append_assoc]) (by simp [printed]) rfl⟩
        · simp only [if_neg hc, rend_all_of ih e vs _ rest h hv hd he hso hi, andThen, call, ret, hp_seqEnd,
            rendT_seq, if_neg hce]
          exact ⟨_, rfl, .brackets _ _ _ h0 hf⟩
    | @tup es vs h hv hd he =>
      simp only [visitImpl_tup, bracket, hp_tupBegin, Bool.false_eq_true, if_false]
      rw [rend_list_of ih es vs _ _ rest (by have := length_le_tagList es; omega) h hv hd he hso
        (Inside.enter _ h0 hf)]
      simp only [andThen, call, ret, hp_tupEnd, rendT_tup]
      exact ⟨_, rfl, .brackets _ _ _ h0 hf⟩
    | @var alts i v h hi hv hd he =>
      simp only [visitImpl_var h hi hv, bracket, call, ret, hp_varBegin, hp_null, Bool.false_eq_true, if_false]
      obtain ⟨s2, e2, r2⟩ := rend_nth_of ih alts i v s rest h hv hd he hso h0 hf
      rw [e2]
      simp only [andThen, call, ret, hp_varEnd, rendT_var]
      exact ⟨_, rfl, r2⟩
    | @enum u n ens raw sz hs hn hens hnb hr =>
      simp only [visitImpl_enum hs hn hens hnb hr, call, ret, hp_enum, rendT_enum]
      cases hemp : (lookupEnumerator (integerToHex u raw) ens).isEmpty <;>
        simp only [if_true, Bool.false_eq_true, if_false] <;>
        exact ⟨_, rfl, Rend.leaf hf⟩
    | @struct n fs vs hn h hv hd he hes =>
      rw [visitImpl_struct hn hes, bracket]
      rcases structBegin_cases tp n fs vs rest hv hso with hh | ⟨hso, hr, hh⟩
      · simp only [hh, if_true]
        exact ⟨_, rfl, Rend.leaf hf⟩
      · rw [hr]
        simp only [hh, h_structBegin, tagFields_isEmpty]
        cases fs with
        | nil =>
          cases hasTyFields_nil hv
          simp only [List.isEmpty_nil, if_true, Bool.false_eq_true, if_false, fieldLoop_nil, encodeFields,
            List.nil_append, andThen, call, ret, hp_structEnd]
          exact ⟨_, rfl, (Rend.leaf hf).setFlag⟩
        | cons a fs =>
          have hi := Inside.enter ((removePrefixBefore n cLt).1 ++ [123, 32]) h0 hf
          simp only [List.isEmpty_cons, Bool.false_eq_true, if_false, write_write]
          rw [rend_fields_of ih (a :: fs) vs _ _ rest (by have := length_le_tagFields (a :: fs); omega) h hv
            (.inl hd) he hso hi]
          simp only [andThen, call, ret, hp_structEnd, (Joined.foldl hi.state hi.flag _).2.2.1, Bool.false_eq_true, if_false]
          exact ⟨_, rfl, .brackets _ _ _ h0 hf⟩

end

section
variable (full : Bytes)

theorem render_all (e : Ty) (vs : List Val) (m : Nat) (s : Ts) (rest : Bytes)
    (h : TyOk e = true) (hv : hasTyAll e vs = true) (hd : depth e < m)
    (he : ESNames full (emptyStructNames e))
    (hst : s.state ≠ .normal) (h1 : 1 ≤ s.seqDepth) (hf : s.emptyStruct = false) :
    ∃ s', loopN (fun (p : Ts × Bytes) => visitImpl tsv full m (tag e) p.1 p.2) vs.length
        (s, encodeAll e vs ++ rest) = .ok (s', rest)
      ∧ s'.out = s.out ++ joinFrom s.state (renderAll e vs) ∧ s'.seqDepth = s.seqDepth
      ∧ s'.emptyStruct = false ∧ s'.state ≠ .normal :=
  ⟨_, rend_all_of (rendersAt none full m) e vs s rest h hv hd he (fun x => nomatch x) ⟨hst, h1, hf⟩, Joined.foldl hst hf _⟩

theorem render_list (es : List Ty) (vs : List Val) (m f : Nat) (s : Ts) (rest : Bytes)
    (hfu : es.length < f) (h : TyOkList es = true) (hv : hasTyList es vs = true)
    (hd : depthList es < m) (he : ESNames full (emptyStructNamesList es))
    (hst : s.state ≠ .normal) (h1 : 1 ≤ s.seqDepth) (hf : s.emptyStruct = false) :
    ∃ s', visitImpl.tupLoop tsv full m f (tagList es) s (encodeList es vs ++ rest) = .ok (s', rest)
      ∧ s'.out = s.out ++ joinFrom s.state (renderList es vs) ∧ s'.seqDepth = s.seqDepth
      ∧ s'.emptyStruct = false ∧ s'.state ≠ .normal :=
  ⟨_, rend_list_of (rendersAt none full m) es vs f s rest hfu h hv hd he (fun x => nomatch x) ⟨hst, h1, hf⟩, Joined.foldl hst hf _⟩

theorem render_fields (fs : List (Bytes × Ty)) (vs : List Val) (m f : Nat) (s : Ts) (rest : Bytes)
    (hfu : fs.length < f) (h : TyOkFields fs = true) (hv : hasTyFields fs vs = true)
    (hd : depthFields fs < m ∨ fs = []) (he : ESNames full (emptyStructNamesFields fs))
    (hst : s.state ≠ .normal) (h1 : 1 ≤ s.seqDepth) (hf : s.emptyStruct = false) :
    ∃ s', visitImpl.fieldLoop tsv full m f (tagFields fs) s (encodeFields fs vs ++ rest) = .ok (s', rest)
      ∧ s'.out = s.out ++ joinFrom s.state (renderFields fs vs) ∧ s'.seqDepth = s.seqDepth
      ∧ s'.emptyStruct = false ∧ s'.state ≠ .normal :=
  ⟨_, rend_fields_of (rendersAt none full m) fs vs f s rest hfu h hv hd he (fun x => nomatch x) ⟨hst, h1, hf⟩, Joined.foldl hst hf _⟩

theorem render_nth (alts : List Ty) (i : Nat) (v : Val) (m : Nat) (s : Ts) (rest : Bytes)
    (h : ∀ t ∈ alts, TyOkN t = true) (hv : hasTyNth alts i v = true)
    (hd : depthList alts < m) (he : ESNames full (emptyStructNamesList alts))
    (h0 : 0 ≤ s.seqDepth) (hf : s.emptyStruct = false) :
    ∃ s', (if tag (nthTy alts i) = [cZero] then
          (.ok ((s.comma).write (strBytes "{null}"), encodeNth alts i v ++ rest) : Outcome _)
        else visitImpl tsv full m (tag (nthTy alts i)) s (encodeNth alts i v ++ rest)) = .ok (s', rest)
      ∧ Rend s s' (renderNth alts i v) :=
  rend_nth_of (rendersAt none full m) alts i v s rest h hv hd he (fun x => nomatch x) h0 hf
end

section
variable (full : Bytes) (pp : TimePrinter)

theorem renderS_all (e : Ty) (vs : List Val) (m : Nat) (s : Ts) (rest : Bytes)
    (h : TyOk e = true) (hv : hasTyAll e vs = true) (hd : depth e < m)
    (he : ESNames full (emptyStructNames e)) (hns : specialOk e = true)
    (hst : s.state ≠ .normal) (h1 : 1 ≤ s.seqDepth) (hf : s.emptyStruct = false) :
    ∃ s', loopN (fun (p : Ts × Bytes) => visitImpl (tsvP (some pp)) full m (tag e) p.1 p.2) vs.length
        (s, encodeAll e vs ++ rest) = .ok (s', rest)
      ∧ s'.out = s.out ++ joinFrom s.state (renderPPAll e vs) ∧ s'.seqDepth = s.seqDepth
      ∧ s'.emptyStruct = false ∧ s'.state ≠ .normal :=
  ⟨_, rend_all_of (rendersAt (some pp) full m) e vs s rest h hv hd he (fun _ => hns) ⟨hst, h1, hf⟩, Joined.foldl hst hf _⟩

theorem renderS_list (es : List Ty) (vs : List Val) (m f : Nat) (s : Ts) (rest : Bytes)
    (hfu : es.length < f) (h : TyOkList es = true) (hv : hasTyList es vs = true)
    (hd : depthList es < m) (he : ESNames full (emptyStructNamesList es)) (hns : specialOkList es = true)
    (hst : s.state ≠ .normal) (h1 : 1 ≤ s.seqDepth) (hf : s.emptyStruct = false) :
    ∃ s', visitImpl.tupLoop (tsvP (some pp)) full m f (tagList es) s (encodeList es vs ++ rest) = .ok (s', rest)
      ∧ s'.out = s.out ++ joinFrom s.state (renderPPList es vs) ∧ s'.seqDepth = s.seqDepth
      ∧ s'.emptyStruct = false ∧ s'.state ≠ .normal :=
  ⟨_, rend_list_of (rendersAt (some pp) full m) es vs f s rest hfu h hv hd he (fun _ => hns) ⟨hst, h1, hf⟩, Joined.foldl hst hf _⟩

theorem renderS_fields (fs : List (Bytes × Ty)) (vs : List Val) (m f : Nat) (s : Ts) (rest : Bytes)
    (hfu : fs.length < f) (h : TyOkFields fs = true) (hv : hasTyFields fs vs = true)
    (hd : depthFields fs < m ∨ fs = []) (he : ESNames full (emptyStructNamesFields fs)) (hns : specialOkFields fs = true)
    (hst : s.state ≠ .normal) (h1 : 1 ≤ s.seqDepth) (hf : s.emptyStruct = false) :
    ∃ s', visitImpl.fieldLoop (tsvP (some pp)) full m f (tagFields fs) s (encodeFields fs vs ++ rest) = .ok (s', rest)
      ∧ s'.out = s.out ++ joinFrom s.state (renderPPFields fs vs) ∧ s'.seqDepth = s.seqDepth
      ∧ s'.emptyStruct = false ∧ s'.state ≠ .normal :=
  ⟨_, rend_fields_of (rendersAt (some pp) full m) fs vs f s rest hfu h hv hd he (fun _ => hns) ⟨hst, h1, hf⟩, Joined.foldl hst hf _⟩

theorem renderS_nth (alts : List Ty) (i : Nat) (v : Val) (m : Nat) (s : Ts) (rest : Bytes)
    (h : ∀ t ∈ alts, TyOkN t = true) (hv : hasTyNth alts i v = true)
    (hd : depthList alts < m) (he : ESNames full (emptyStructNamesList alts)) (hns : specialOkList alts = true)
    (h0 : 0 ≤ s.seqDepth) (hf : s.emptyStruct = false) :
    ∃ s', (if tag (nthTy alts i) = [cZero] then
          (.ok ((s.comma).write (strBytes "{null}"), encodeNth alts i v ++ rest) : Outcome _)
        else visitImpl (tsvP (some pp)) full m (tag (nthTy alts i)) s (encodeNth alts i v ++ rest)) = .ok (s', rest)
      ∧ Rend s s' (renderPPNth alts i v) :=
  rend_nth_of (rendersAt (some pp) full m) alts i v s rest h hv hd he (fun _ => hns) h0 hf
end

section
variable (tp : Option TimePrinter) (full : Bytes)

theorem renderP_all (e : Ty) (vs : List Val) (m : Nat) (s : Ts) (rest : Bytes)
    (h : TyOk e = true) (hv : hasTyAll e vs = true) (hd : depth e < m)
    (he : ESNames full (emptyStructNames e)) (hns : noSpecialStruct e = true)
    (hst : s.state ≠ .normal) (h1 : 1 ≤ s.seqDepth) (hf : s.emptyStruct = false) :
    ∃ s', loopN (fun (p : Ts × Bytes) => visitImpl (tsvP tp) full m (tag e) p.1 p.2) vs.length
        (s, encodeAll e vs ++ rest) = .ok (s', rest)
      ∧ s'.out = s.out ++ joinFrom s.state (renderAll e vs) ∧ s'.seqDepth = s.seqDepth
      ∧ s'.emptyStruct = false ∧ s'.state ≠ .normal := by
  obtain ⟨ho, _, hr⟩ := noSpecial_ok hns
  cases tp with
  | none => exact render_all full e vs m s rest h hv hd he hst h1 hf
  | some pp => exact hr vs ▸ renderS_all full pp e vs m s rest h hv hd he ho hst h1 hf

theorem renderP_list (es : List Ty) (vs : List Val) (m f : Nat) (s : Ts) (rest : Bytes)
    (hfu : es.length < f) (h : TyOkList es = true) (hv : hasTyList es vs = true)
    (hd : depthList es < m) (he : ESNames full (emptyStructNamesList es)) (hns : noSpecialStructList es = true)
    (hst : s.state ≠ .normal) (h1 : 1 ≤ s.seqDepth) (hf : s.emptyStruct = false) :
    ∃ s', visitImpl.tupLoop (tsvP tp) full m f (tagList es) s (encodeList es vs ++ rest) = .ok (s', rest)
      ∧ s'.out = s.out ++ joinFrom s.state (renderList es vs) ∧ s'.seqDepth = s.seqDepth
      ∧ s'.emptyStruct = false ∧ s'.state ≠ .normal := by
  obtain ⟨ho, hr, _⟩ := noSpecial_okList hns
  cases tp with
  | none => exact render_list full es vs m f s rest hfu h hv hd he hst h1 hf
  | some pp => exact hr vs ▸ renderS_list full pp es vs m f s rest hfu h hv hd he ho hst h1 hf

theorem renderP_fields (fs : List (Bytes × Ty)) (vs : List Val) (m f : Nat) (s : Ts) (rest : Bytes)
    (hfu : fs.length < f) (h : TyOkFields fs = true) (hv : hasTyFields fs vs = true)
    (hd : depthFields fs < m ∨ fs = []) (he : ESNames full (emptyStructNamesFields fs)) (hns : noSpecialStructFields fs = true)
    (hst : s.state ≠ .normal) (h1 : 1 ≤ s.seqDepth) (hf : s.emptyStruct = false) :
    ∃ s', visitImpl.fieldLoop (tsvP tp) full m f (tagFields fs) s (encodeFields fs vs ++ rest) = .ok (s', rest)
      ∧ s'.out = s.out ++ joinFrom s.state (renderFields fs vs) ∧ s'.seqDepth = s.seqDepth
      ∧ s'.emptyStruct = false ∧ s'.state ≠ .normal := by
  obtain ⟨ho, hr⟩ := noSpecial_okFields hns
  cases tp with
  | none => exact render_fields full fs vs m f s rest hfu h hv hd he hst h1 hf
  | some pp => exact hr vs ▸ renderS_fields full pp fs vs m f s rest hfu h hv hd he ho hst h1 hf

theorem renderP_nth (alts : List Ty) (i : Nat) (v : Val) (m : Nat) (s : Ts) (rest : Bytes)
    (h : ∀ t ∈ alts, TyOkN t = true) (hv : hasTyNth alts i v = true)
    (hd : depthList alts < m) (he : ESNames full (emptyStructNamesList alts)) (hns : noSpecialStructList alts = true)
    (h0 : 0 ≤ s.seqDepth) (hf : s.emptyStruct = false) :
    ∃ s', (if tag (nthTy alts i) = [cZero] then
          (.ok ((s.comma).write (strBytes "{null}"), encodeNth alts i v ++ rest) : Outcome _)
        else visitImpl (tsvP tp) full m (tag (nthTy alts i)) s (encodeNth alts i v ++ rest)) = .ok (s', rest)
      ∧ Rend s s' (renderNth alts i v) := by
  obtain ⟨ho, _, hr⟩ := noSpecial_okList hns
  cases tp with
  | none => exact render_nth full alts i v m s rest h hv hd he h0 hf
  | some pp => exact hr i v ▸ renderS_nth full pp alts i v m s rest h hv hd he ho h0 hf
end

end BinlogVerif.Mser
