import BinlogVerif.Lemmas.QueueBasic
/-
  The inductive invariant of the queue model.  A position is a pair (lap, offset), ordered lexicographically (`ple`);
  `btw E l1 p1 l2 p2 x`: cell `x` lies in [(l1,p1), (l2,p2)), the two at most one lap apart, the earlier lap ending at
  offset `E` (dataEnd).  Both are notations for linear arithmetic, so `omega`/`grind` see through them.

  Ghost: a message's `lap` counts wrap-arounds; cell `x` of a lap holds token `base + x`, so W message `i` sits at token
  `base + val` and the first `i` commits concatenate to the tokens `1 .. base+val-1` (`g4`).

  Kept in order:  k ≤ R_j (j ≥ pRidx) ≤ c ≤ rd ≤ W_i (i ≥ cWidx) ≤ h,  with k = (kLap,kVal) the R message the producer
  read last, c = (cLap,cR) the consumer, rd = (rdLap,readEnd), h = (hl,pW) the newest W message; h is less than a lap
  ahead of k (`b1`, `b2`: the one-cell gap).
-/
namespace BinlogVerif.Q

scoped notation "ple " l1:max p1:max l2:max p2:max => (l1 < l2 ∨ (l1 = l2 ∧ p1 ≤ p2))

scoped notation "btw " E:max l1:max p1:max l2:max p2:max x:max =>
  ((l1 = l2 ∧ p1 ≤ x ∧ x < p2) ∨ (l1 + 1 = l2 ∧ ((p1 ≤ x ∧ x < E) ∨ x < p2)))

/-- first uncommitted cell of the current write -/
def St.start (s : St) : Nat := if s.wrapP then 0 else s.pW

structure Inv (s : St) : Prop where
  a1p : s.pEpoch = s.wHist.length
  a1c : s.cEpoch = s.rHist.length
  a2p : s.pRidx < s.rHist.length
  a2c : s.cWidx < s.wHist.length
  a3p : s.pRidx ≤ s.pSees
  a3c : s.cWidx ≤ s.cSees
  a4 : ∀ (i : Nat) (mi : Msg), s.wHist[i]? = some mi → mi.pub = i
  a5 : ∀ (j : Nat) (mj : Msg), s.rHist[j]? = some mj → mj.pub = j
  a7d : s.data.length = s.cap
  a7w : s.wEp.length = s.cap
  a7r : s.rEp.length = s.cap
  a7e : s.we ≤ s.cap
  a7p : s.pW ≤ s.cap
  a8 : ∀ (j : Nat) (mj : Msg), s.rHist[j]? = some mj → mj.val ≤ s.cap
  a9 : s.readEnd ≤ s.cap
  a10 : ∀ (i : Nat) (mi : Msg), s.wHist[i]? = some mi → mi.val ≤ s.cap
  p1 : ple s.kLap s.kVal s.cLap s.cR
  p2 : ple s.cLap s.cR s.rdLap s.readEnd
  p3 : ple s.rdLap s.readEnd s.hl s.pW
  p4 : ∀ (j : Nat) (mj : Msg), s.pRidx ≤ j → s.rHist[j]? = some mj →
        ple s.kLap s.kVal mj.lap mj.val ∧ ple mj.lap mj.val s.cLap s.cR
  p5 : ∀ (j j' : Nat) (mj mj' : Msg), s.pRidx ≤ j → j ≤ j' → s.rHist[j]? = some mj → s.rHist[j']? = some mj' →
        ple mj.lap mj.val mj'.lap mj'.val
  p6 : ∀ (i : Nat) (mi : Msg), s.cWidx ≤ i → s.wHist[i]? = some mi →
        ple s.rdLap s.readEnd mi.lap mi.val ∧ ple mi.lap mi.val s.hl s.pW
  p7 : ∀ (i i' : Nat) (mi mi' : Msg), s.cWidx ≤ i → i ≤ i' → s.wHist[i]? = some mi → s.wHist[i']? = some mi' →
        ple mi.lap mi.val mi'.lap mi'.val
  b1 : s.hl ≤ s.kLap + 1
  b2 : s.hl = s.kLap + 1 → s.pW < s.kVal
  b3 : s.cLap + 1 = s.hl → s.cR ≤ s.E
  b4 : s.rdLap + 1 = s.hl → s.readEnd ≤ s.E
  b5 : ∀ (i : Nat) (mi : Msg), s.cWidx ≤ i → s.wHist[i]? = some mi → mi.lap + 1 = s.hl → mi.val ≤ s.E
  c1 : s.wrapP = true → s.hl = s.kLap ∧ s.we + 1 ≤ s.kVal ∧ s.E = s.pW ∧ s.wp ≤ s.we
  c2 : s.wrapP = false → s.pW ≤ s.wp ∧ s.wp ≤ s.we ∧ (s.hl = s.kLap + 1 → s.we + 1 ≤ s.kVal)
  d1 : s.hl = s.kLap + 1 → s.E ≤ s.cap
  d2 : s.eWEp ≤ s.pEpoch
  -- d3: a W message that takes the consumer to the next lap publishes the write of `dataEnd` (no `cReadEnd` race).
  -- d4, contrapositive: an R message on the head's lap, the only kind after which the producer writes `dataEnd`,
  -- publishes the consumer's last read of it (no `pWriteEnd` race)
  d3 : ∀ (i : Nat) (mi : Msg), s.cWidx ≤ i → s.wHist[i]? = some mi → mi.lap = s.cLap + 1 → s.eWEp ≤ i
  d4 : ∀ (j : Nat) (mj : Msg), s.pRidx ≤ j → s.rHist[j]? = some mj → j < s.eREp → mj.lap < s.hl
  d5 : s.eREp ≤ s.cEpoch
  -- f1: a cell read after R message `j` was stored lies in `[R_j, h)`; so the write window, which is outside `[k, h)`, was
  -- last read in an epoch the producer has seen (`Inv.window_rEp`).  f2: the cells of `[c, W_i)` were last written
  -- before W message `i` was stored, which therefore publishes them (`Inv.readable`)
  f1 : ∀ (x j : Nat) (mj : Msg), s.pRidx ≤ j → s.rHist[j]? = some mj → j < s.rEp.getD x 0 →
        btw s.E mj.lap mj.val s.hl s.pW x
  f1' : ∀ x, s.rEp.getD x 0 ≤ s.cEpoch
  f2 : ∀ (x i : Nat) (mi : Msg), s.cWidx ≤ i → s.wHist[i]? = some mi → btw s.E s.cLap s.cR mi.lap mi.val x →
        s.wEp.getD x 0 ≤ i
  f2h : ∀ x, btw s.E s.cLap s.cR s.hl s.pW x → s.wEp.getD x 0 < s.pEpoch
  f3 : ∀ x, s.start ≤ x → x < s.wp →
        s.wEp.getD x 0 = s.pEpoch ∧ s.data.getD x 0 + s.start = s.hBase + s.pW + x
  f4lo : ∀ x, s.cLap + 1 = s.hl → s.cR ≤ x → x < s.E → s.data.getD x 0 = s.cBase + x
  f4hi : ∀ x, (s.cLap = s.hl ∧ s.cR ≤ x ∧ x < s.pW) ∨ (s.cLap + 1 = s.hl ∧ x < s.pW) →
        s.data.getD x 0 = s.hBase + x
  g1h : 1 ≤ s.hBase
  g1c : 1 ≤ s.cBase
  g2a : s.cLap = s.hl → s.cBase = s.hBase
  g2b : s.cLap + 1 = s.hl → s.hBase = s.cBase + s.E
  g2c : s.rdLap = s.hl → s.rdBase = s.hBase
  g2d : s.rdLap = s.cLap → s.rdBase = s.cBase
  g3 : ∀ (i : Nat) (mi : Msg), s.cWidx ≤ i → s.wHist[i]? = some mi →
        (mi.lap = s.hl → mi.base = s.hBase) ∧ (mi.lap = s.cLap → mi.base = s.cBase)
  g4 : ∀ (i : Nat) (mi : Msg), s.wHist[i]? = some mi →
        1 ≤ mi.base ∧ (s.commits.take i).flatten = List.range' 1 (mi.base + mi.val - 1)
  g4h : s.commits.flatten = List.range' 1 (s.hBase + s.pW - 1)
  g5 : s.commits.length + 1 = s.wHist.length
  g6a : s.nextTok = s.hBase + s.pW + s.pending.length
  g6b : s.pending = List.range' (s.hBase + s.pW) (s.wp - s.start)
  g7 : s.delivered.flatten = List.range' 1 (s.cBase + s.cR - 1)
  g8 : ∀ d, ∃ c, c ≤ s.commits.length ∧ (s.delivered.take d).flatten = (s.commits.take c).flatten
  g9 : s.batch = List.range' (s.cBase + s.cR) (s.rdBase + s.readEnd - (s.cBase + s.cR))
  -- g10–g12: `readEnd`, the start of the head's lap and every piece boundary of the batch are commit boundaries
  -- (`Boundary`); g11 is why a wrapped read splits between two commits (`Inv.boundary_lapEnd`)
  g10 : ∃ c, c ≤ s.commits.length ∧ (s.commits.take c).flatten = List.range' 1 (s.rdBase + s.readEnd - 1)
  g11 : ∃ c, c ≤ s.commits.length ∧ (s.commits.take c).flatten = List.range' 1 (s.hBase - 1)
  g12 : ∀ p, ∃ c, c ≤ s.commits.length ∧
        (s.commits.take c).flatten = s.delivered.flatten ++ (s.pieces.take p).flatten
  g13 : s.batch = s.pieces.flatten
  g14 : s.pieces.length ≤ 2
  nr : s.race = none

open Lean in
/-- `om [t1, t2, …]` : add the listed facts to the context and call `omega` -/
macro "om" "[" ts:term,* "]" : tactic => do
  let mut tacs : Array (TSyntax `tactic) := #[]
  for t in ts.getElems do
    tacs := tacs.push (← `(tactic| have := $t))
  tacs := tacs.push (← `(tactic| omega))
  `(tactic| ($[$tacs];*))

open Lean in
/-- `gr [t1, t2, …]` : add the listed facts to the context and call `grind` -/
macro "gr" "[" ts:term,* "]" : tactic => do
  let mut tacs : Array (TSyntax `tactic) := #[]
  for t in ts.getElems do
    tacs := tacs.push (← `(tactic| have := $t))
  tacs := tacs.push (← `(tactic| grind (splits := 40)))
  `(tactic| ($[$tacs];*))

/-- The step lemmas (QueueProd, QueueCons) prove `Inv s → Inv { s with … }` by `{ h with c := … }`: a clause not listed
    is `h`'s own, since the projections of the updated state unfold.  In a listed clause `omega` would take
    `{ s with … }.f` for an atom: `pom [t1, t2, …]` is `om` after reducing these projections. -/
syntax "pom" "[" term,* "]" : tactic
macro_rules
  | `(tactic| pom []) => `(tactic| (try dsimp only at *) <;> omega)
  | `(tactic| pom [$t]) => `(tactic| (have := $t; pom []))
  | `(tactic| pom [$t, $ts,*]) => `(tactic| (have := $t; pom [$ts,*]))

theorem Inv.window {s : St} (h : Inv s) (y : Nat) (h1 : s.wp ≤ y) (h2 : y < s.we) :
    ¬ (btw s.E s.kLap s.kVal s.hl s.pW y) := by
  -- `[k, h)` is `[kVal, pW)`, or `[kVal, E) ∪ [0, pW)` when the head is a lap ahead.  A window that is not wrapped (`c2`)
  -- starts at `pW` or later, and ends below `kVal` in the second case; a wrapped one (`c1`) has `k` on the head's lap
  -- and ends below `kVal`
  cases hw : s.wrapP
  · gr [h.c2 hw]
  · gr [h.c1 hw]

theorem Inv.start_le {s : St} (h : Inv s) : s.start ≤ s.wp := by
  unfold St.start
  split
  · exact Nat.zero_le _
  · exact (h.c2 (Bool.eq_false_iff.2 ‹_›)).1

theorem getElem?_lt_length {α} {l : List α} {x : α} {i : Nat} (h : l[i]? = some x) : i < l.length :=
  (List.getElem?_eq_some_iff.1 h).1

theorem ple_trans {l1 p1 l2 p2 l3 p3 : Nat} (h1 : ple l1 p1 l2 p2) (h2 : ple l2 p2 l3 p3) :
    ple l1 p1 l3 p3 := by grind

theorem ple_lap {l1 p1 l2 p2 : Nat} (h : ple l1 p1 l2 p2) : l1 ≤ l2 := by omega

theorem ple_squeeze {l1 p1 l2 p2 l3 p3 : Nat} (h1 : ple l1 p1 l2 p2) (h2 : ple l2 p2 l3 p3) (e : l1 = l3) :
    l2 = l3 ∧ p1 ≤ p2 ∧ p2 ≤ p3 := by grind

theorem btw_mono_left {E l1 p1 l1' p1' l2 p2 x : Nat} (hp : ple l1 p1 l1' p1') (hl : l2 ≤ l1 + 1)
    (h : btw E l1' p1' l2 p2 x) : btw E l1 p1 l2 p2 x := by grind

theorem btw_mono_right {E l1 p1 l2 p2 p2' x : Nat} (hp : p2 ≤ p2') (h : btw E l1 p1 l2 p2 x) :
    btw E l1 p1 l2 p2' x := by grind

theorem btw_mono_right_lap {E l1 p1 l2 p2 l2' p2' x : Nat} (hp : ple l2 p2 l2' p2') (hl : l2' ≤ l1 + 1)
    (hE : l2 + 1 = l2' → p2 ≤ E) (h : btw E l1 p1 l2 p2 x) : btw E l1 p1 l2' p2' x := by grind

theorem btw_split_right {E l1 p1 l2 p2 p2' x : Nat} (h : btw E l1 p1 l2 p2' x) :
    btw E l1 p1 l2 p2 x ∨ (p2 ≤ x ∧ x < p2') := by grind

theorem forall_ge_append_singleton {α} {l : List α} {m : α} {lo : Nat} {P : Nat → α → Prop}
    (old : ∀ i x, lo ≤ i → l[i]? = some x → P i x) (new : lo ≤ l.length → P l.length m) :
    ∀ i x, lo ≤ i → (l ++ [m])[i]? = some x → P i x := by
  intro i x hlo hi
  rcases Nat.lt_succ_iff_lt_or_eq.1 (List.length_append ▸ getElem?_lt_length hi) with c | rfl
  · exact old i x hlo (List.getElem?_append_left c ▸ hi)
  · cases List.getElem?_concat_length ▸ hi
    exact new hlo

theorem forall_append_singleton {α} {l : List α} {m : α} {P : Nat → α → Prop}
    (old : ∀ i x, l[i]? = some x → P i x) (new : P l.length m) : ∀ i x, (l ++ [m])[i]? = some x → P i x :=
  fun i x => forall_ge_append_singleton (lo := 0) (fun i x _ => old i x) (fun _ => new) i x (Nat.zero_le i)

def Chain (hist : List Msg) (lo al ap bl bp : Nat) : Prop :=
  (∀ (j : Nat) (mj : Msg), lo ≤ j → hist[j]? = some mj →
    ple al ap mj.lap mj.val ∧ ple mj.lap mj.val bl bp) ∧
  (∀ (j j' : Nat) (mj mj' : Msg), lo ≤ j → j ≤ j' → hist[j]? = some mj → hist[j']? = some mj' →
    ple mj.lap mj.val mj'.lap mj'.val)

theorem Inv.rChain {s : St} (h : Inv s) : Chain s.rHist s.pRidx s.kLap s.kVal s.cLap s.cR := ⟨h.p4, h.p5⟩
theorem Inv.wChain {s : St} (h : Inv s) : Chain s.wHist s.cWidx s.rdLap s.readEnd s.hl s.pW := ⟨h.p6, h.p7⟩

theorem Chain.advance {hist lo al ap bl bp j} {m : Msg} (c : Chain hist lo al ap bl bp)
    (hj : lo ≤ j) (hm : hist[j]? = some m) : Chain hist j m.lap m.val bl bp :=
  ⟨fun j' mj' hj' hm' => ⟨c.2 j j' m mj' hj hj' hm hm', (c.1 j' mj' (Nat.le_trans hj hj') hm').2⟩,
   fun j1 j2 m1 m2 h1 => c.2 j1 j2 m1 m2 (Nat.le_trans hj h1)⟩

theorem Chain.push {hist lo al ap bl bp} (c : Chain hist lo al ap bl bp) (m : Msg)
    (hab : ple al ap bl bp) (hb : ple bl bp m.lap m.val) :
    Chain (hist ++ [m]) lo al ap m.lap m.val := by
  have c1 : ∀ j mj, lo ≤ j → (hist ++ [m])[j]? = some mj →
      ple al ap mj.lap mj.val ∧ ple mj.lap mj.val m.lap m.val :=
    forall_ge_append_singleton (fun j mj hj hm => ⟨(c.1 j mj hj hm).1, ple_trans (c.1 j mj hj hm).2 hb⟩)
      (fun _ => ⟨ple_trans hab hb, Or.inr ⟨rfl, Nat.le_refl _⟩⟩)
  -- of two messages the later one is in `hist` with the earlier, or is `m`, which `c1` puts above every message
  exact ⟨c1, fun j j' mj mj' hj hjj hm => forall_ge_append_singleton
    (fun j' mj' hjj hm' => c.2 j j' mj mj' hj hjj
      (List.getElem?_append_left (Nat.lt_of_le_of_lt hjj (getElem?_lt_length hm')) ▸ hm) hm')
    (fun _ => (c1 j mj hj hm).2) j' mj' hjj⟩

def Boundary (commits : List (List Nat)) (X : List Nat) : Prop :=
  ∃ c, c ≤ commits.length ∧ (commits.take c).flatten = X

theorem Boundary.all (cs : List (List Nat)) : Boundary cs cs.flatten :=
  ⟨cs.length, Nat.le_refl _, by rw [List.take_length]⟩

theorem Boundary.append {cs : List (List Nat)} {X : List Nat} (h : Boundary cs X) (p : List Nat) :
    Boundary (cs ++ [p]) X := by
  obtain ⟨c, hc, e⟩ := h
  exact ⟨c, by rw [List.length_append]; omega, by rw [List.take_append_of_le_length hc]; exact e⟩

theorem Boundary.isPrefix {cs : List (List Nat)} {X : List Nat} (h : Boundary cs X) : X <+: cs.flatten := by
  obtain ⟨c, _, rfl⟩ := h
  exact ⟨(cs.drop c).flatten, by rw [← List.flatten_append, List.take_append_drop]⟩

theorem Boundary.comm {cs : List (List Nat)} {X : List Nat} :
    Boundary cs X ↔ ∃ c, c ≤ cs.length ∧ X = (cs.take c).flatten :=
  exists_congr fun _ => and_congr_right' eq_comm

theorem Inv.boundary_delivered {s : St} (h : Inv s) : Boundary s.commits s.delivered.flatten := by
  have := Boundary.comm.2 (h.g8 s.delivered.length)
  rwa [List.take_length] at this

theorem Inv.msg_le {s : St} (h : Inv s) {i : Nat} {m : Msg} (hi : s.wHist[i]? = some m) : i ≤ s.commits.length := by
  om [getElem?_lt_length hi, h.g5]

theorem Inv.laps {s : St} (h : Inv s) : s.kLap ≤ s.cLap ∧ s.cLap ≤ s.rdLap ∧ s.rdLap ≤ s.hl ∧ s.hl ≤ s.kLap + 1 :=
  ⟨ple_lap h.p1, ple_lap h.p2, ple_lap h.p3, h.b1⟩

/-- `L`, `V`, `B`: lap, offset and base of `readEnd`, or of a W message the consumer may read -/
theorem Inv.lap_cases {s : St} (h : Inv s) {L V B : Nat} (hp : ple s.cLap s.cR L V) (hl : L ≤ s.hl)
    (gh : L = s.hl → B = s.hBase) (gc : L = s.cLap → B = s.cBase) :
    (L = s.cLap ∧ B = s.cBase ∧ s.cR ≤ V) ∨ (L = s.hl ∧ B = s.hBase ∧ s.cLap + 1 = s.hl ∧ s.cR ≤ s.E) := by
  rcases hp with lt | ⟨rfl, v⟩
  · obtain ⟨e, l⟩ : L = s.hl ∧ s.cLap + 1 = s.hl := by om [ple_lap h.p1, h.b1]
    exact Or.inr ⟨e, gh e, l, h.b3 l⟩
  · exact Or.inl ⟨rfl, gc rfl, v⟩

theorem Inv.rd_lap {s : St} (h : Inv s) :
    (s.rdLap = s.cLap ∧ s.rdBase = s.cBase ∧ s.cR ≤ s.readEnd) ∨
    (s.rdLap = s.hl ∧ s.rdBase = s.hBase ∧ s.cLap + 1 = s.hl ∧ s.cR ≤ s.E) :=
  h.lap_cases h.p2 (ple_lap h.p3) h.g2c h.g2d

theorem Inv.window_c {s : St} (h : Inv s) {y : Nat} (h1 : s.wp ≤ y) (h2 : y < s.we) :
    ¬ (btw s.E s.cLap s.cR s.hl s.pW y) :=
  fun hb => h.window y h1 h2 (btw_mono_left h.p1 h.b1 hb)

theorem Inv.one_lap {s : St} (h : Inv s) (e : s.hl = s.kLap) :
    s.cLap = s.hl ∧ s.rdLap = s.hl ∧ s.cR ≤ s.readEnd ∧ s.readEnd ≤ s.pW ∧
    ∀ i mi, s.cWidx ≤ i → s.wHist[i]? = some mi → mi.lap = s.hl ∧ mi.val ≤ s.pW := by
  have lc := (ple_squeeze h.p1 (ple_trans h.p2 h.p3) e.symm).1
  obtain ⟨lr, r1, r2⟩ := ple_squeeze h.p2 h.p3 lc
  refine ⟨lc, lr, r1, r2, fun i mi hc hi => ?_⟩
  obtain ⟨a, -, b⟩ := ple_squeeze (h.p6 i mi hc hi).1 (h.p6 i mi hc hi).2 lr
  exact ⟨a, b⟩

theorem Inv.window_rEp {s : St} (h : Inv s) {y : Nat} (h1 : s.wp ≤ y) (h2 : y < s.we) :
    s.rEp.getD y 0 ≤ s.pRidx := by
  refine Nat.le_of_not_lt fun hlt => ?_
  have hk := List.getElem?_eq_getElem h.a2p
  exact h.window y h1 h2
    (btw_mono_left (h.p4 _ _ (Nat.le_refl _) hk).1 h.b1 (h.f1 y _ _ (Nat.le_refl _) hk hlt))

theorem inv_init (cap : Nat) : Inv (init cap) := by
  unfold init
  constructor <;>
    simp +contextual [St.start, getD_replicate_zero, List.getElem?_singleton, -List.getD_eq_getElem?_getD]

end BinlogVerif.Q
