import BinlogVerif.Reader.EventStream
/-
  `nextEntry` takes a whole entry off exactly the inputs of the shape `frame p ++ rest`, and `splitEntries` does not
  depend on its fuel, so it unfolds one entry at a time (`splitEntries_unfold`, `splitEntries_frame`).
-/
namespace BinlogVerif

theorem frame_length (p : Bytes) : (frame p).length = 4 + p.length := by simp [frame]

theorem frames_cons (p : Bytes) (ps : List Bytes) : frames (p :: ps) = frame p ++ frames ps := rfl

theorem frames_append (a b : List Bytes) : frames (a ++ b) = frames a ++ frames b := by
  simp [frames]

theorem drop_frame_append (p rest : Bytes) (c : Nat) :
    List.drop (4 + p.length + c) (frame p ++ rest) = List.drop c rest := by
  rw [← frame_length, List.drop_length_add_append]

theorem nextEntry_frame (p rest : Bytes) (h : PayloadOk p) :
    nextEntry (frame p ++ rest) = some (.ok (p, rest)) := by
  have hlen : ¬ (le 4 p.length ++ (p ++ rest)).length < 4 := by simp
  unfold nextEntry frame
  rw [List.append_assoc, if_neg (by rw [le_append_isEmpty 4 _ _ (by decide)]; nofun), if_neg hlen]
  simp only [List.take_left' (le_length 4 _), List.drop_left' (le_length 4 _), unle_le_of_lt 4 _ h,
    List.length_append, Nat.le_add_right, if_true, List.take_left', List.drop_left']

theorem nextEntry_cases (a : Bytes) :
    a = [] ∨ (∃ t, t ≠ .clean ∧ a ≠ [] ∧ nextEntry a = some (.error t)) ∨
      ∃ p rest, a = frame p ++ rest ∧ PayloadOk p := by
  by_cases h0 : a = []
  · exact .inl h0
  have he : ¬ a.isEmpty = true := by simpa using h0
  by_cases h4 : a.length < 4
  · exact .inr (.inl ⟨.truncSize, nofun, h0, by rw [nextEntry, if_neg he, if_pos h4]⟩)
  by_cases hs : unle (a.take 4) ≤ (a.drop 4).length
  · -- the size field is the four bytes `a.take 4`, and it is the length of the payload taken
    have hsize := le_unle (a.take 4)
    have hlt := unle_lt (a.take 4)
    rw [List.length_take_of_le (Nat.le_of_not_lt h4)] at hsize hlt
    have hlen : ((a.drop 4).take (unle (a.take 4))).length = unle (a.take 4) := List.length_take_of_le hs
    refine .inr (.inr ⟨(a.drop 4).take (unle (a.take 4)), (a.drop 4).drop (unle (a.take 4)), ?_, ?_⟩)
    · rw [frame, hlen, hsize, List.append_assoc, List.take_append_drop, List.take_append_drop]
    · unfold PayloadOk; rw [hlen]; exact hlt
  · exact .inr (.inl ⟨.truncPayload, nofun, h0, by rw [nextEntry, if_neg he, if_neg h4]; exact if_neg hs⟩)

theorem splitEntriesFuel_fuel (f1 f2 : Nat) (r : Bytes) (h1 : r.length < f1) (h2 : r.length < f2) :
    splitEntriesFuel f1 r = splitEntriesFuel f2 r := by
  induction f1 generalizing f2 r with
  | zero => omega
  | succ f1 ih =>
    cases f2 with
    | zero => omega
    | succ f2 =>
      simp only [splitEntriesFuel]
      rcases nextEntry_cases r with rfl | ⟨t, -, -, ht⟩ | ⟨p, rest, rfl, hp⟩
      · rfl
      · rw [ht]
      · rw [List.length_append, frame_length] at h1 h2
        rw [nextEntry_frame p rest hp]
        simp only
        rw [ih f2 rest (by omega) (by omega)]

theorem splitEntries_unfold (r : Bytes) :
    splitEntries r = match nextEntry r with
      | none => ([], 0, .clean)
      | some (.error t) => ([], 0, t)
      | some (.ok (p, rest)) =>
        let (ps, n, t) := splitEntries rest
        (p :: ps, 4 + p.length + n, t) := by
  show splitEntriesFuel (r.length + 1) r = _
  rw [splitEntriesFuel]
  rcases nextEntry_cases r with rfl | ⟨t, -, -, ht⟩ | ⟨p, rest, rfl, hp⟩
  · rfl
  · rw [ht]
  · rw [nextEntry_frame p rest hp]
    simp only [splitEntries]
    rw [splitEntriesFuel_fuel _ (rest.length + 1) rest (by rw [List.length_append, frame_length]; omega) (by omega)]

theorem splitEntries_frame (p rest : Bytes) (h : PayloadOk p) :
    splitEntries (frame p ++ rest) =
      (p :: (splitEntries rest).1, 4 + p.length + (splitEntries rest).2.1, (splitEntries rest).2.2) := by
  rw [splitEntries_unfold, nextEntry_frame p rest h]

theorem splitEntries_induction {motive : Bytes → Prop} (nil : motive [])
    (cut : ∀ a t, a ≠ [] → t ≠ .clean → splitEntries a = ([], 0, t) → motive a)
    (step : ∀ p rest, PayloadOk p → motive rest → motive (frame p ++ rest)) (a : Bytes) : motive a := by
  obtain ⟨n, hn⟩ : ∃ n, a.length = n := ⟨_, rfl⟩
  induction n using Nat.strongRecOn generalizing a with
  | _ n ih =>
    rcases nextEntry_cases a with rfl | ⟨t, ht, ha, hne⟩ | ⟨p, rest, rfl, hp⟩
    · exact nil
    · exact cut a t ha ht (by rw [splitEntries_unfold, hne])
    · rw [List.length_append, frame_length] at hn
      exact step p rest hp (ih rest.length (by omega) rest rfl)

theorem splitEntries_take_frame (p rest : Bytes) (hp : PayloadOk p) {n : Nat} (hn : n < 4 + p.length) :
    (splitEntries ((frame p ++ rest).take n)).1 = [] := by
  rw [splitEntries_unfold]
  rcases nextEntry_cases ((frame p ++ rest).take n) with h | ⟨t, -, -, h⟩ | ⟨q, rest', h, hq⟩
  · rw [h]; rfl
  · rw [h]
  · -- a whole entry inside the cut would be the first entry of the uncut input as well: that is `p`, which does not fit
    have hw := nextEntry_frame q (rest' ++ (frame p ++ rest).drop n) hq
    rw [← List.append_assoc, ← h, List.take_append_drop, nextEntry_frame p rest hp] at hw
    obtain ⟨rfl, -⟩ := Prod.mk.inj (Except.ok.inj (Option.some.inj hw))
    have hl := congrArg List.length h
    simp only [List.length_take, List.length_append, frame_length] at hl
    omega

end BinlogVerif
