import BinlogVerif.Conc.Locks
/-
  Invariant (`Inv`): every recorded access satisfies its location's discipline (`Disc.Ok`) with
  "covered by `m`" (`Cov`) in the place of "holds `m`".
-/
namespace BinlogVerif.Locks

theorem upd_same {α : Type} (f : Nat → α) (i : Nat) (v : α) : upd f i v i = v :=
  if_pos rfl

theorem upd_ne {α : Type} (f : Nat → α) {i j : Nat} (v : α) (h : j ≠ i) : upd f i v j = f j :=
  if_neg h

theorem upd_apply {α : Type} (f : Nat → α) (i j : Nat) (v : α) :
    upd f i v j = if j = i then v else f j := rfl

theorem mem_upd_cons {α : Type} {f : Nat → List α} {x y : Nat} {a b : α}
    (h : a ∈ upd f y (b :: f y) x) : a ∈ f x ∨ (x = y ∧ a = b) := by
  rw [upd_apply] at h
  split at h
  · subst x
    exact (List.mem_cons.1 h).symm.imp_right (⟨rfl, ·⟩)
  · exact .inl h

variable {disc : Nat → Disc} {s : St} {e : Ev} {a : Acc} {d : Disc} {w : Bool} {t m : Nat}

theorem join_left (a b : VC) (i : Nat) : a i ≤ VC.join a b i := Nat.le_max_left _ _
theorem join_right (a b : VC) (i : Nat) : b i ≤ VC.join a b i := Nat.le_max_right _ _
theorem inc_le (t : Nat) (a : VC) (i : Nat) : a i ≤ VC.inc t a i := by
  unfold VC.inc; split <;> omega

theorem le_upd {f g : Nat → VC} {u : Nat} {v : VC} {i : Nat} (hv : f u i ≤ v i) (u' : Nat)
    (hg : f u' i ≤ g u' i) : f u' i ≤ upd g u v u' i := by
  rw [upd_apply]
  split
  · subst u'; exact hv
  · exact hg

theorem clk_mono (s : St) (e : Ev) (u i : Nat) : s.clk u i ≤ (step s e).clk u i := by
  have same := Nat.le_refl (s.clk u i)
  cases e with
  | acq t m => exact le_upd (join_left _ _ i) u same
  | rel t m => exact le_upd (inc_le _ _ i) u same
  | rd t x => exact same
  | wr t x => exact same
  | fork t c => exact le_upd (inc_le _ _ i) u (le_upd (join_left _ _ i) u same)
  | join t c => exact le_upd (inc_le _ _ i) u (le_upd (join_left _ _ i) u same)

/-- The clock that speaks for mutex `m`: its holder's; if `m` is free, the one stored at its
    last release.  An access is covered by `m` (`Cov`) when this clock has it; the clock only
    grows along enabled steps, so covered stays covered. -/
def guard (s : St) (m : Nat) : VC :=
  match s.own m with
  | some h => s.clk h
  | none => s.lck m

theorem guard_mono (he : enabled s e = true) (m i : Nat) :
    guard s m i ≤ guard (step s e) m i := by
  have frame : (step s e).own m = s.own m → (step s e).lck m = s.lck m →
      guard s m i ≤ guard (step s e) m i := by
    intro ho hl
    unfold guard; rw [ho, hl]
    cases s.own m with
    | none => exact Nat.le_refl _
    | some h => exact clk_mono s e h i
  cases e with
  | acq t m' =>
    by_cases hm : m = m'
    · -- `m` was free: its stored clock is joined into the new holder's
      subst hm
      have : s.own m = none := beq_iff_eq.1 he
      simp only [guard, step, this, upd_same]
      exact join_right _ _ i
    · exact frame (upd_ne _ _ hm) rfl
  | rel t m' =>
    by_cases hm : m = m'
    · -- the holder's clock is what `rel` stores
      subst hm
      have : s.own m = some t := beq_iff_eq.1 he
      simp only [guard, step, this, upd_same]
      exact Nat.le_refl _
    · exact frame (upd_ne _ _ hm) (upd_ne _ _ hm)
  | _ => exact frame rfl rfl

def Cov (s : St) (a : Acc) (m : Nat) : Prop := a.k ≤ guard s m a.t

theorem cov_iff_of_held (h : s.held t m = true) : Cov s a m ↔ a.k ≤ s.clk t a.t := by
  unfold Cov guard; rw [beq_iff_eq.1 h]

theorem before_iff {c : VC} : a.before t c = true ↔ a.t = t ∨ a.k ≤ c a.t := by
  simp [Acc.before]

/-- What discipline `d` asks of an access (a write iff `w`) by thread `t`, `locked m` standing
    for "the access is protected by `m`": `obeysEv` is this with "holds `m`" (`obeysEv_rd`,
    `obeysEv_wr`). -/
def Disc.Ok (d : Disc) (locked : Nat → Prop) (w : Bool) (t : Nat) : Prop :=
  match d with
  | .guarded m => locked m
  | .ownerWrites o m => (t = o ∨ locked m) ∧ (w = true → t = o ∧ locked m)
  | .threadLocal o => t = o

theorem Disc.Ok.mono {p q : Nat → Prop} (h : ∀ m, p m → q m) : d.Ok p w t → d.Ok q w t := by
  cases d with
  | guarded m => exact h m
  | ownerWrites o m => exact fun ⟨h1, h2⟩ => ⟨h1.imp_right (h m), fun hw => (h2 hw).imp_right (h m)⟩
  | threadLocal o => exact id

theorem obeysEv_rd {held : Nat → Nat → Bool} {x : Nat} :
    obeysEv disc held (.rd t x) = true ↔ (disc x).Ok (held t · = true) false t := by
  simp only [obeysEv, Disc.Ok]; cases disc x <;> simp

theorem obeysEv_wr {held : Nat → Nat → Bool} {x : Nat} :
    obeysEv disc held (.wr t x) = true ↔ (disc x).Ok (held t · = true) true t := by
  simp only [obeysEv, Disc.Ok]; cases disc x <;> simp +contextual

theorem before_of_ok (ha : d.Ok (Cov s a) a.w a.t) (ht : d.Ok (s.held t · = true) w t)
    (hw : a.w = true ∨ w = true) : a.before t (s.clk t) = true := by
  have cov {m} (h : s.held t m = true) (hc : Cov s a m) := (cov_iff_of_held h).1 hc
  refine before_iff.2 ?_
  cases d with
  | guarded m => exact .inr (cov ht ha)
  | threadLocal o => exact .inl (ha.trans ht.symm)
  | ownerWrites o m =>
    -- the write is by the owner and under `m`; the other access is one of the two
    rcases hw with hw | hw
    · exact ht.1.imp ((ha.2 hw).1.trans ·.symm) (cov · (ha.2 hw).2)
    · exact ha.1.imp (·.trans (ht.2 hw).1.symm) (cov (ht.2 hw).2)

theorem ok_new (h : d.Ok (s.held t · = true) w t) : d.Ok (Cov s ⟨w, t, s.clk t t⟩) w t :=
  h.mono fun _ hm => (cov_iff_of_held hm).2 (Nat.le_refl _)

def Inv (disc : Nat → Disc) (s : St) : Prop := ∀ x a, a ∈ s.acc x → (disc x).Ok (Cov s a) a.w a.t

theorem inv_init (disc : Nat → Disc) : Inv disc init :=
  fun _ _ h => nomatch h

theorem inv_step (hi : Inv disc s) (he : enabled s e = true)
    (ho : obeysEv disc s.held e = true) : Inv disc (step s e) := by
  intro x a hmem
  apply Disc.Ok.mono fun m hc => Nat.le_trans hc (guard_mono he m a.t)
  cases e with
  | rd t y =>
    rcases mem_upd_cons hmem with h | ⟨rfl, rfl⟩
    · exact hi x a h
    · exact ok_new (obeysEv_rd.1 ho)
  | wr t y =>
    rcases mem_upd_cons hmem with h | ⟨rfl, rfl⟩
    · exact hi x a h
    · exact ok_new (obeysEv_wr.1 ho)
  | _ => exact hi x a hmem

theorem inv_noRace (hi : Inv disc s) (ho : obeysEv disc s.held e = true) :
    noRace s e = true := by
  cases e with
  | rd t x =>
    refine List.all_eq_true.2 fun a ha => ?_
    cases hw : a.w with
    | false => rfl
    | true => exact before_of_ok (hi x a ha) (obeysEv_rd.1 ho) (.inl hw)
  | wr t x =>
    exact List.all_eq_true.2 fun a ha => before_of_ok (hi x a ha) (obeysEv_wr.1 ho) (.inr rfl)
  | _ => rfl

theorem raceFreeFrom_of_obeys (tr : List Ev) (s : St) (hi : Inv disc s)
    (hw : wellFormedFrom s tr = true) (ho : obeysFrom disc s tr = true) :
    raceFreeFrom s tr = true := by
  induction tr generalizing s with
  | nil => rfl
  | cons e tr ih =>
    simp only [wellFormedFrom, obeysFrom, Bool.and_eq_true] at hw ho
    simp only [raceFreeFrom, Bool.and_eq_true]
    exact ⟨inv_noRace hi ho.1, ih _ (inv_step hi hw.1 ho.1) hw.2 ho.2⟩

theorem run_append (s : St) (a b : List Ev) : run s (a ++ b) = run (run s a) b := by
  induction a generalizing s with
  | nil => rfl
  | cons e a ih => exact ih _

/-- For any check `f` that folds a per-event test `p` along the trace; the two equations hold
    by `rfl` for `wellFormedFrom`, `obeysFrom`, `conformsFrom`. -/
theorem fold_iff_prefix {p : St → Ev → Bool} {f : St → List Ev → Bool} (nil : ∀ s, f s [] = true)
    (cons : ∀ s e tr, f s (e :: tr) = (p s e && f (step s e) tr)) (s : St) (tr : List Ev) :
    f s tr = true ↔ ∀ pre e post, tr = pre ++ e :: post → p (run s pre) e = true := by
  induction tr generalizing s with
  | nil => exact ⟨fun _ pre e post h => by simp at h, fun _ => nil s⟩
  | cons e' tr ih =>
    rw [cons, Bool.and_eq_true, ih]
    constructor
    · rintro ⟨h1, h2⟩ pre e post h
      cases pre with
      | nil => cases h; exact h1
      | cons p pre => cases (List.cons.inj h).1; exact h2 pre e post (List.cons.inj h).2
    · exact fun h => ⟨h [] e' tr rfl, fun pre e post hh => h (e' :: pre) e post (congrArg _ hh)⟩

theorem holds_eq (tr : List Ev) : holds tr = (run init tr).held := rfl

theorem obeys_iff_prefix (disc : Nat → Disc) (tr : List Ev) :
    Obeys disc tr ↔ ∀ pre e post, tr = pre ++ e :: post → obeysEv disc (holds pre) e = true :=
  fold_iff_prefix (p := fun s => obeysEv disc s.held) (fun _ => rfl) (fun _ _ _ => rfl) init tr

theorem enabled_iff (s : St) (e : Ev) :
    enabled s e = true ↔
      match e with
      | .acq _ m => ∀ u, s.held u m = false
      | .rel t m => s.held t m = true
      | _ => True := by
  cases e with
  | acq t m => simp only [enabled, St.held]; cases s.own m <;> simp
  | rel t m => exact Iff.rfl
  | _ => exact iff_of_true rfl trivial

theorem wellFormed_iff_prefix (tr : List Ev) :
    WellFormed tr ↔ ∀ pre e post, tr = pre ++ e :: post →
      match e with
      | .acq _ m => ∀ u, holds pre u m = false
      | .rel t m => holds pre t m = true
      | _ => True :=
  (fold_iff_prefix (p := enabled) (fun _ => rfl) (fun _ _ _ => rfl) init tr).trans <|
    forall_congr' fun pre => forall_congr' fun e => forall_congr' fun _ =>
      imp_congr_right fun _ => enabled_iff (run init pre) e

end BinlogVerif.Locks
