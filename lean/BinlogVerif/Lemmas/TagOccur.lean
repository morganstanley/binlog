import BinlogVerif.Lemmas.TagParse
/-
  Every `{` in the tag of a `TyOk` type is followed by a plain struct name and then by a backtick (the
  struct has fields) or by `}` (it has none).  Hence `{n` followed by a backtick occurs in `tag tTop` only if `tTop` contains
  a struct WITH fields named `n` (`not_infix_of_names`): what `EmptyStructsOk (tag tTop) t` needs.
-/
namespace BinlogVerif.Mser
open BinlogVerif BinlogVerif.Tag BinlogVerif.Visit

/- names of the structs with at least one field -/
mutual
def defNames : Ty → List Bytes
  | .seq e => defNames e
  | .tup es => defNamesList es
  | .var alts => defNamesList alts
  | .struct name fs => (if fs.isEmpty then [] else [name]) ++ defNamesFields fs
  | _ => []
def defNamesList : List Ty → List Bytes
  | [] => []
  | t :: ts => defNames t ++ defNamesList ts
def defNamesFields : List (Bytes × Ty) → List Bytes
  | [] => []
  | (_, t) :: fs => defNames t ++ defNamesFields fs
end

/-- what follows a `{`: a plain name, then either a backtick, the name being one of `names`, or `}` -/
def AfterBrace (names : List Bytes) (suf : Bytes) : Prop :=
  ∃ name r, Plain name ∧ ((name ∈ names ∧ suf = name ++ cBacktick :: r) ∨ suf = name ++ cRBrace :: r)

theorem AfterBrace.append_right {names : List Bytes} {suf : Bytes} (h : AfterBrace names suf) (x : Bytes) :
    AfterBrace names (suf ++ x) := by
  obtain ⟨name, r, hp, h | h⟩ := h
  · exact ⟨name, r ++ x, hp, .inl ⟨h.1, by rw [h.2]; simp⟩⟩
  · exact ⟨name, r ++ x, hp, .inr (by rw [h]; simp)⟩

def BraceOk (names : List Bytes) : Bytes → Prop
  | [] => True
  | x :: s => (x = cLBrace → AfterBrace names s) ∧ BraceOk names s

theorem BraceOk.elim {names : List Bytes} {pre suf : Bytes} (h : BraceOk names (pre ++ cLBrace :: suf)) :
    AfterBrace names suf := by
  induction pre with
  | nil => exact h.1 rfl
  | cons x pre ih => exact ih h.2

theorem BraceOk.append {names : List Bytes} {a b : Bytes} (ha : BraceOk names a) (hb : BraceOk names b) :
    BraceOk names (a ++ b) := by
  induction a with
  | nil => exact hb
  | cons x a ih => exact ⟨fun e => (ha.1 e).append_right b, ih ha.2⟩

theorem BraceOk.cons {names : List Bytes} {x : UInt8} {s : Bytes} (hx : x ≠ cLBrace) (hs : BraceOk names s) :
    BraceOk names (x :: s) := ⟨fun e => absurd e hx, hs⟩

theorem BraceOk.plain {names : List Bytes} {s : Bytes} (h : Plain s) : BraceOk names s := by
  induction s with
  | nil => trivial
  | cons x s ih => exact .cons (ne_of_charOk (h x (by simp)) rfl) (ih fun y hy => h y (by simp [hy]))

theorem BraceOk.label {names : List Bytes} {n r : Bytes} (hn : Plain n) (hr : BraceOk names r) :
    BraceOk names (cBacktick :: (n ++ cQuote :: r)) :=
  .cons (by decide) ((BraceOk.plain hn).append (.cons (by decide) hr))

theorem tagEnums_braceOk {names : List Bytes} (ens : List (Bytes × Bytes)) (h : EnumsOk ens = true) :
    BraceOk names (tagEnums ens) := by
  induction ens with
  | nil => trivial
  | cons a ens ih =>
    obtain ⟨hx, n⟩ := a
    obtain ⟨hhx, hn, hens⟩ := enumsOk_cons h
    rw [tagEnums_cons]
    exact (BraceOk.plain hhx).append (.label hn (ih hens))

/- `names` is any list that holds the names defined in the type: `AfterBrace` only asks for membership, so the
   induction keeps one list throughout -/
mutual
theorem tag_braceOk {names : List Bytes} (t : Ty) (h : TyOkN t = true) (hs : defNames t ⊆ names) :
    BraceOk names (tag t) := by
  cases t with
  | arith c => exact .cons (ne_of_charOk (arith_charOk (tyOkN_arith h)).1 rfl) trivial
  | null => exact .cons (by decide) trivial
  | seq x => exact .cons (by decide) (tag_braceOk x (tyOkN_seq h) hs)
  | tup es =>
    rw [tag_tup]
    exact .cons (by decide) ((tagList_braceOk es (tyOkN_tup h) hs).append (.cons (by decide) trivial))
  | var es =>
    rw [tag_var]
    exact .cons (by decide) ((tagList_braceOk es (tyOkN_var h) hs).append (.cons (by decide) trivial))
  | enum u n ens =>
    obtain ⟨hu, hn, hens⟩ := tyOkN_enum h
    rw [tag_enum]
    exact .cons (by decide) ((BraceOk.cons (ne_of_charOk (arith_charOk hu).1 rfl)
      (.label hn (tagEnums_braceOk ens hens))).append (.cons (by decide) trivial))
  | struct n fs =>
    obtain ⟨hpn, hfs⟩ := tyOkN_struct h
    rw [tag_struct]
    refine ⟨fun _ => ?_, ((BraceOk.plain hpn).append
      (tagFields_braceOk fs hfs (List.append_subset.1 hs).2)).append (.cons (by decide) trivial)⟩
    cases fs with
    | nil => exact ⟨n, [], hpn, .inr (List.append_nil _ ▸ rfl)⟩
    | cons a fs =>
      obtain ⟨fn, ft⟩ := a
      exact ⟨n, _, hpn, .inl ⟨hs (by simp [defNames]), by rw [tagFields_cons, List.append_assoc]; rfl⟩⟩
theorem tagList_braceOk {names : List Bytes} (ts : List Ty) (h : ∀ t ∈ ts, TyOkN t = true)
    (hs : defNamesList ts ⊆ names) : BraceOk names (tagList ts) := by
  cases ts with
  | nil => trivial
  | cons t ts =>
    obtain ⟨h1, h2⟩ := List.append_subset.1 hs
    rw [tagList_cons]
    exact (tag_braceOk t (h t (by simp)) h1).append (tagList_braceOk ts (fun x hx => h x (by simp [hx])) h2)
theorem tagFields_braceOk {names : List Bytes} (fs : List (Bytes × Ty)) (h : TyOkFields fs = true)
    (hs : defNamesFields fs ⊆ names) : BraceOk names (tagFields fs) := by
  cases fs with
  | nil => trivial
  | cons a fs =>
    obtain ⟨n, t⟩ := a
    obtain ⟨hn, ht, hfs⟩ := tyOkFields_cons h
    obtain ⟨h1, h2⟩ := List.append_subset.1 hs
    rw [tagFields_cons]
    exact .label hn ((tag_braceOk t ht h1).append (tagFields_braceOk fs hfs h2))
end

theorem brace_list (ts : List Ty) (h : ∀ t ∈ ts, TyOkN t = true) (pre suf : Bytes)
    (e : tagList ts = pre ++ cLBrace :: suf) : AfterBrace (defNamesList ts) suf :=
  (e ▸ tagList_braceOk ts h (List.Subset.refl _)).elim

theorem brace_fields (fs : List (Bytes × Ty)) (h : TyOkFields fs = true) (pre suf : Bytes)
    (e : tagFields fs = pre ++ cLBrace :: suf) : AfterBrace (defNamesFields fs) suf :=
  (e ▸ tagFields_braceOk fs h (List.Subset.refl _)).elim

mutual
theorem emptyStructNames_plain (t : Ty) (h : TyOkN t = true) : ∀ n ∈ emptyStructNames t, Plain n := by
  cases t with
  | arith _ | null | enum _ _ _ => exact fun _ hn => nomatch hn
  | seq e => exact emptyStructNames_plain e (tyOkN_seq h)
  | tup es => exact emptyStructNamesList_plain es (tyOkN_tup h)
  | var es => exact emptyStructNamesList_plain es (tyOkN_var h)
  | struct nm fs =>
    have h := tyOkN_struct h
    refine List.forall_mem_append.2 ⟨fun n hn => ?_, emptyStructNamesFields_plain fs h.2⟩
    split at hn
    · rw [List.mem_singleton] at hn; exact hn ▸ h.1
    · cases hn
theorem emptyStructNamesList_plain (ts : List Ty) (h : ∀ t ∈ ts, TyOkN t = true) :
    ∀ n ∈ emptyStructNamesList ts, Plain n := by
  cases ts with
  | nil => exact fun _ hn => nomatch hn
  | cons t ts =>
    exact List.forall_mem_append.2 ⟨emptyStructNames_plain t (h t (by simp)),
      emptyStructNamesList_plain ts fun x hx => h x (by simp [hx])⟩
theorem emptyStructNamesFields_plain (fs : List (Bytes × Ty)) (h : TyOkFields fs = true) :
    ∀ n ∈ emptyStructNamesFields fs, Plain n := by
  cases fs with
  | nil => exact fun _ hn => nomatch hn
  | cons a fs =>
    obtain ⟨_, t⟩ := a
    obtain ⟨-, ht, hfs⟩ := tyOkFields_cons h
    exact List.forall_mem_append.2 ⟨emptyStructNames_plain t ht, emptyStructNamesFields_plain fs hfs⟩
end

theorem not_infix_of_names {tTop : Ty} (hTop : TyOkN tTop = true) {n : Bytes} (hn : Plain n)
    (hnot : n ∉ defNames tTop) : ¬ (cLBrace :: n ++ [cBacktick]) <:+: tag tTop := by
  intro ⟨pre, post, e⟩
  have hb := tag_braceOk tTop hTop (List.Subset.refl _)
  simp only [← e, List.append_assoc, List.cons_append, List.nil_append] at hb
  obtain ⟨name, r, hp, h | h⟩ := hb.elim
  · exact hnot ((plain_sep hn hp (by decide) (by decide) h.2).1 ▸ h.1)
  · exact absurd (plain_sep hn hp (by decide) (by decide) h).2 (by decide)

end BinlogVerif.Mser
