import BinlogVerif.Generated.SrcQueue
import BinlogVerif.Lemmas.SrcBridgeTactic
import BinlogVerif.Lemmas.QueueBasic
/-
  Bridge lemmas (see SrcBridgeTactic.lean).  The bounds: `2^64` is the range of `size_t`; `2^63` is asked where the source
  converts to `std::int64_t` (`rightSize`, `leftSize` of `maximizeWriteCapacity`) or adds two sizes (`unreadWriteSize`), and of the window end that `beginWrite` compares with.
  The model's capacity is any `Nat`, so `s.cap < 2^63` in `step_pBegin_src` is a hypothesis on the queue at hand (the
  size of an allocated buffer), not a consequence of `Q.Inv`.
-/
namespace BinlogVerif.SrcBridge
open BinlogVerif BinlogVerif.CSem BinlogVerif.Generated

/-- what `QueueWriter::maximizeWriteCapacity` does, as the model's `pBegin` step states it:
    the new window `[wp, we)` and the value of `dataEnd` -/
def modelMaximize (cap w r e : Nat) : Nat × Nat × Nat :=
  if w < r then (w, r - 1, e)
  else if r + w ≤ cap + 1 then (w, cap, e)
  else (0, r - 1, w)

def viewMax (o : Src.maximizeWriteCapacity.Out) := (o._writePos, o._writeEnd, o.dataEnd, o.ret, o.ok, o.throws, o.effects)
def viewMaxModel (m : Nat × Nat × Nat) : Int × Int × Int × Int × Bool × Bool × List (String × List Int) :=
  (m.1, m.2.1, m.2.2, ((m.2.1 - m.1 : Nat) : Int), true, false, [])

theorem maximizeWriteCapacity_bridge (cap w r e : Nat) (wp0 we0 : Int)
    (hc : cap < 9223372036854775808) (hw : w ≤ cap) (hr : r ≤ cap) :
    viewMax (Src.maximizeWriteCapacity w r cap e wp0 we0) = viewMaxModel (modelMaximize cap w r e) := by
  unfold Src.maximizeWriteCapacity modelMaximize viewMax viewMaxModel
  bridge_range
  bridge_unfold []
  bridge_arith []

theorem step_pBegin_model (o : Q.Orders) (s : Q.St) (n j : Nat) (m : Q.Msg)
    (hload : ¬ n ≤ s.we - s.wp) (hp : s.pending = []) (hj : ¬ j < s.pRidx) (hm : s.rHist[j]? = some m) :
    ∃ s', Q.step o s (.pBegin n j) = some s' ∧ (s'.wp, s'.we, s'.E) = modelMaximize s.cap s.pW m.val s.E := by
  refine ⟨_, Q.step_pBegin_load hload hp (Nat.not_lt.1 hj) hm, ?_⟩
  unfold Q.pWindow modelMaximize
  rw [show (Q.pView o s j m).pW = s.pW from rfl, show (Q.pView o s j m).cap = s.cap from rfl]
  split
  · rfl
  · split <;> rfl

/-- the window the model's `pBegin` step installs is the one the source computes -/
theorem step_pBegin_src (o : Q.Orders) (s : Q.St) (n j : Nat) (m : Q.Msg)
    (hload : ¬ n ≤ s.we - s.wp) (hp : s.pending = []) (hj : ¬ j < s.pRidx) (hm : s.rHist[j]? = some m)
    (hc : s.cap < 9223372036854775808) (hw : s.pW ≤ s.cap) (hr : m.val ≤ s.cap) :
    ∃ s', Q.step o s (.pBegin n j) = some s' ∧
      viewMax (Src.maximizeWriteCapacity s.pW m.val s.cap s.E s.wp s.we) = viewMaxModel (s'.wp, s'.we, s'.E) := by
  obtain ⟨s', h1, h2⟩ := step_pBegin_model o s n j m hload hp hj hm
  exact ⟨s', h1, by rw [h2]; exact maximizeWriteCapacity_bridge _ _ _ _ _ _ hc hw hr⟩

def viewBeginWrite (o : Src.beginWrite.Out) := (o.ret, o.effects, o.ok, o.throws)
/-- `beginWrite(size)`: no load when `size ≤ writeCapacity()`, otherwise the answer is
    `size ≤ maximizeWriteCapacity()` -/
theorem beginWrite_bridge (size wp we : Nat) (mret : Int) (hwe : wp ≤ we) (h : we < 9223372036854775808) :
    viewBeginWrite (Src.beginWrite size wp we mret) =
      if size ≤ we - wp then (true, [], true, false)
      else (decide ((size : Int) ≤ mret), [("maximizeWriteCapacity", [])], true, false) := by
  bridge_unfold [Src.beginWrite, viewBeginWrite]
  bridge_arith []

def viewWriteBuffer (o : Src.writeBuffer.Out) := (o.ok, o._writePos, o.ret, o.effects, o.throws)
/-- `writeBuffer(src, size)`: the assert is the model's guard `k ≤ we - wp`, the bytes go to
    `[wp, wp + size)`, the position advances by `size` -/
theorem writeBuffer_bridge (size wp we : Nat) (hwe : wp ≤ we) :
    viewWriteBuffer (Src.writeBuffer size wp we) =
      (decide (size ≤ we - wp), ((wp + size : Nat) : Int), (wp : Int), [("memcpy", [(wp : Int), (size : Int)])], false) := by
  bridge_unfold [Src.writeBuffer, viewWriteBuffer]
  bridge_arith []

theorem endWrite_bridge (wp : Nat) (h : wp < 18446744073709551616) :
    (Src.endWrite wp).writeIndex_store = some (wp : Int) := by
  bridge_unfold [Src.endWrite]
  congr 1; omega

theorem endRead_bridge (re : Nat) : (Src.endRead re).readIndex_store = some (re : Int) := rfl

/-- the pieces `QueueReader::beginRead` returns, as the model's `cBegin` step reads them:
    `(offset₁, size₁, offset₂, size₂)` -/
def modelBeginRead (w r e : Nat) : Nat × Nat × Nat × Nat :=
  if r ≤ w then (r, w - r, 0, 0)
  else if r < e then (r, e - r, 0, w)
  else (0, w, 0, 0)

def viewBeginRead (o : Src.beginRead.Out) := (o._readEnd, o.buffer1, o.size1, o.buffer2, o.size2, o.ok, o.throws, o.effects)
def viewBeginReadModel (w : Nat) (m : Nat × Nat × Nat × Nat) : Int × Int × Int × Int × Int × Bool × Bool × List (String × List Int) :=
  (w, m.1, m.2.1, m.2.2.1, m.2.2.2, true, false, [])

theorem beginRead_bridge (w r e : Nat) (re0 b1 s1 b2 s2 : Int)
    (hw : w < 18446744073709551616) (hr : r < 18446744073709551616) (he : e < 18446744073709551616) :
    viewBeginRead (Src.beginRead w r e re0 b1 s1 b2 s2) = viewBeginReadModel w (modelBeginRead w r e) := by
  unfold Src.beginRead modelBeginRead viewBeginRead viewBeginReadModel
  bridge_range
  bridge_unfold []
  bridge_arith []

theorem unreadWriteSize_bridge (w r e : Nat) (hw : w < 9223372036854775808) (hr : r ≤ e) (he : e < 9223372036854775808) :
    (Src.unreadWriteSize w r e).ret = if r ≤ w then ((w - r : Nat) : Int) else ((e - r + w : Nat) : Int) := by
  unfold Src.unreadWriteSize
  bridge_range
  bridge_unfold []
  bridge_arith []

/-- the consumer's `beginRead` reads `dataEnd` exactly on the wrapped path `w < r` (the condition of the model's `cBegin`) and
    never writes it -/
theorem beginRead_dataEnd (w r e : Nat) (re0 b1 s1 b2 s2 : Int) :
    (Src.beginRead w r e re0 b1 s1 b2 s2).dataEnd_read = decide (w < r) ∧
    (Src.beginRead w r e re0 b1 s1 b2 s2).dataEnd_written = false := by
  bridge_unfold [Src.beginRead]
  bridge_arith []

/-- the producer's `unreadWriteSize` reads `dataEnd` exactly on the wrapped path `w < r` -/
theorem unreadWriteSize_dataEnd (w r e : Nat) :
    (Src.unreadWriteSize w r e).dataEnd_read = decide (w < r) ∧ (Src.unreadWriteSize w r e).dataEnd_written = false := by
  bridge_unfold [Src.unreadWriteSize]
  bridge_arith []

/-- the producer's `maximizeWriteCapacity` never reads `dataEnd` and writes it exactly when it wraps: `r ≤ w` and the arena
    left of R is larger than the one right of W (the third branch of `modelMaximize`) -/
theorem maximizeWriteCapacity_dataEnd (cap w r e : Nat) (wp0 we0 : Int)
    (hc : cap < 9223372036854775808) (hw : w ≤ cap) :
    (Src.maximizeWriteCapacity w r cap e wp0 we0).dataEnd_read = false ∧
    (Src.maximizeWriteCapacity w r cap e wp0 we0).dataEnd_written = decide (r ≤ w ∧ cap + 1 < r + w) := by
  unfold Src.maximizeWriteCapacity
  bridge_range
  bridge_unfold []
  bridge_arith []

end BinlogVerif.SrcBridge
