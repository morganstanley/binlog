import BinlogVerif.Conc.Queue
namespace BinlogVerif.Q

/-- `Sufficient` leaves the code's orders `{}` as the only choice: after `cases ho.eq` the tests on `o.wStore`, `o.rLoadP`, …
    in `step`, `pView`, `cView` reduce -/
theorem Orders.Sufficient.eq {o : Orders} (h : o.Sufficient) : o = {} := by
  cases o
  obtain ⟨rfl, rfl, rfl, rfl⟩ := h
  rfl

/-- the `Nat` wrap test used by `step` is the `int64` test of the C++ code -/
theorem wrap_cond_int (cap w r : Nat) :
    ((cap : Int) - (w : Int) ≥ (r : Int) - 1) ↔ r + w ≤ cap + 1 := by omega

theorem flag_eq (s : St) (k : RaceKind) : ∃ r, flag s k = { s with race := r } := by
  unfold flag
  split
  · exact ⟨s.race, rfl⟩
  · exact ⟨_, rfl⟩

theorem flag_race_none_iff (s : St) (k : RaceKind) : (flag s k).race ≠ none := by
  unfold flag
  split
  · exact Option.isSome_iff_ne_none.1 ‹_›
  · exact Option.some_ne_none k

theorem getD_set (l : List Nat) (i j a : Nat) :
    (l.set i a).getD j 0 = if i = j ∧ i < l.length then a else l.getD j 0 := by
  simp only [List.getD_eq_getElem?_getD, List.getElem?_set]
  by_cases h : i = j
  · subst h
    by_cases h2 : i < l.length
    · simp [h2]
    · simp [h2]
  · simp [h]

theorem getD_replicate_zero (n x : Nat) : (List.replicate n 0).getD x 0 = 0 := by
  simp only [List.getD_eq_getElem?_getD, List.getElem?_replicate]
  split <;> rfl

theorem getD_of_length_le (l : List Nat) (x : Nat) (h : l.length ≤ x) : l.getD x 0 = 0 := by
  simp [List.getD_eq_getElem?_getD, List.getElem?_eq_none h]

def setRange (l : List Nat) (x : Nat) (f : Nat → Nat) : Nat → List Nat
  | 0 => l
  | k+1 => setRange (l.set x (f 0)) (x+1) (fun i => f (i+1)) k

theorem length_setRange {l : List Nat} {x k : Nat} {f : Nat → Nat} : (setRange l x f k).length = l.length := by
  induction k generalizing l x f with
  | zero => rfl
  | succ k ih => rw [setRange, ih, List.length_set]

theorem getD_setRange {l : List Nat} {x k y : Nat} {f : Nat → Nat} :
    (setRange l x f k).getD y 0 = if x ≤ y ∧ y < x + k ∧ y < l.length then f (y - x) else l.getD y 0 := by
  induction k generalizing l x f with
  | zero => exact (if_neg fun c => Nat.not_lt.2 c.1 c.2.1).symm
  | succ k ih =>
    -- cell `y` is one of the later cells, or the first, or outside
    rw [setRange, ih, List.length_set, getD_set]
    split
    · next c => rw [if_pos (by omega), Nat.sub_add_eq, Nat.sub_add_cancel (Nat.le_sub_of_add_le' c.1)]
    split
    · next c => rw [if_pos (by omega), Nat.sub_eq_zero_of_le (Nat.le_of_eq c.1.symm)]
    · rw [if_neg (by omega)]

theorem writeCells_eq {s : St} {x k : Nat} (h : ∀ y, x ≤ y → y < x + k → s.rEp.getD y 0 ≤ s.pSees) :
    writeCells s x k = { s with data := setRange s.data x (s.nextTok + ·) k,
                                wEp := setRange s.wEp x (fun _ => s.pEpoch) k, nextTok := s.nextTok + k } := by
  induction k generalizing s x with
  | zero => rfl
  | succ k ih =>
    rw [writeCells, pWriteCell, if_neg (Nat.not_lt.2 (h x (Nat.le_refl x) (Nat.lt_add_of_pos_right k.succ_pos))), ih]
    · simp only [setRange, Nat.add_zero, Nat.add_assoc, Nat.add_comm 1]
    · exact fun y h1 h2 => h y (Nat.le_of_succ_le h1) (Nat.add_right_comm x 1 k ▸ h2)

theorem cReadRange_eq {s : St} {lo n : Nat} (h : ∀ y, lo ≤ y → y < lo + n → s.wEp.getD y 0 ≤ s.cSees) :
    cReadRange s lo n = ({ s with rEp := setRange s.rEp lo (fun _ => s.cEpoch) n },
      (List.range' lo n).map (fun y => s.data.getD y 0)) := by
  induction n generalizing s lo with
  | zero => rfl
  | succ n ih =>
    rw [cReadRange, cReadCell, if_neg (Nat.not_lt.2 (h lo (Nat.le_refl lo) (Nat.lt_add_of_pos_right n.succ_pos))), ih]
    · rfl
    · exact fun y h1 h2 => h y (Nat.le_of_succ_le h1) (Nat.add_right_comm lo 1 n ▸ h2)

/-- `b`: the base of the lap read (cell `y` holds token `b + y`).  `P`: any property of the cells read, handed on to the
    cells that get a new stamp -/
theorem cReadRange_toks (s0 : St) (lo n b : Nat) (P : Nat → Prop)
    (hy : ∀ y, lo ≤ y → y < lo + n → s0.wEp.getD y 0 ≤ s0.cSees ∧ s0.data.getD y 0 = b + y ∧ P y) :
    ∃ r, cReadRange s0 lo n = ({ s0 with rEp := r }, List.range' (b + lo) n) ∧ r.length = s0.rEp.length ∧
      ∀ y, r.getD y 0 = s0.rEp.getD y 0 ∨ (r.getD y 0 = s0.cEpoch ∧ P y) := by
  refine ⟨setRange s0.rEp lo (fun _ => s0.cEpoch) n, ?_, length_setRange, fun y => ?_⟩
  · rw [cReadRange_eq (fun y y1 y2 => (hy y y1 y2).1), ← List.map_add_range']
    congr 1
    exact List.map_congr_left fun y hy' => (hy y (List.mem_range'_1.1 hy').1 (List.mem_range'_1.1 hy').2).2.1
  · rw [getD_setRange]; split
    · rename_i c; exact Or.inr ⟨rfl, (hy y c.1 c.2.1).2.2⟩
    · exact Or.inl rfl

theorem range'_append_sub {a b c : Nat} (h1 : a ≤ b) (h2 : b ≤ c) :
    List.range' a (b - a) ++ List.range' b (c - b) = List.range' a (c - a) := by
  rw [← Nat.sub_add_sub_cancel h2 h1, Nat.add_comm, ← List.range'_append_1, Nat.add_sub_cancel' h1]

/-- state after the producer's load of R message `m` at index `j` -/
def pView (o : Orders) (s : St) (j : Nat) (m : Msg) : St :=
  { s with pRidx := j, pSees := if o.rLoadP = MOrd.acquire then max s.pSees m.pub else s.pSees,
           kLap := m.lap, kVal := m.val, wrapP := false }

/-- `maximizeWriteCapacity` with the loaded read index `r` -/
def pWindow (s : St) (r : Nat) : St :=
  if s.pW < r then { s with wp := s.pW, we := r - 1 }
  else if r + s.pW ≤ s.cap + 1 then { s with wp := s.pW, we := s.cap }
  else
    let s' := if s.eREp > s.pSees then flag s RaceKind.pWriteEnd else s
    { s' with E := s.pW, eWEp := s'.pEpoch, wp := 0, we := r - 1, wrapP := true }

theorem step_pBegin_load {o : Orders} {s : St} {n j : Nat} {m : Msg} (h1 : ¬ n ≤ s.we - s.wp) (h2 : s.pending = [])
    (h3 : s.pRidx ≤ j) (hm : s.rHist[j]? = some m) :
    step o s (.pBegin n j) = some (pWindow (pView o s j m) m.val) := by
  rw [step, if_neg h1, if_neg (not_not_intro h2), if_neg (Nat.not_lt.2 h3), hm, pWindow, apply_ite some, apply_ite some]
  rfl

theorem step_pBegin_some {o : Orders} {s s' : St} {n j : Nat} (e : step o s (.pBegin n j) = some s') :
    s' = s ∨ (¬ n ≤ s.we - s.wp ∧ s.pending = [] ∧ s.pRidx ≤ j ∧
      ∃ m, s.rHist[j]? = some m ∧ s' = pWindow (pView o s j m) m.val) := by
  by_cases h1 : n ≤ s.we - s.wp
  · rw [step, if_pos h1] at e
    exact .inl (Option.some.inj e).symm
  · have g := e
    rw [step, if_neg h1, Option.ite_none_left_eq_some, Option.ite_none_left_eq_some, Decidable.not_not, Nat.not_lt] at g
    cases hm : s.rHist[j]? with
    | none => rw [hm] at g; cases g.2.2
    | some m =>
      rw [step_pBegin_load h1 g.1 g.2.1 hm] at e
      exact .inr ⟨h1, g.1, g.2.1, m, rfl, (Option.some.inj e).symm⟩

theorem pBegin_fields {o : Orders} {s s2 : St} {n j : Nat} (e : step o s (Op.pBegin n j) = some s2) :
    s2.commits = s.commits ∧ s2.delivered = s.delivered ∧ s2.wHist = s.wHist ∧ s2.data = s.data ∧
    s2.pending = s.pending ∧ s2.cWidx = s.cWidx ∧ s2.cR = s.cR ∧ s2.cBase = s.cBase := by
  rcases step_pBegin_some e with rfl | ⟨-, -, -, m, -, rfl⟩
  · exact ⟨rfl, rfl, rfl, rfl, rfl, rfl, rfl, rfl⟩
  · unfold pWindow
    split
    · exact ⟨rfl, rfl, rfl, rfl, rfl, rfl, rfl, rfl⟩
    split
    · exact ⟨rfl, rfl, rfl, rfl, rfl, rfl, rfl, rfl⟩
    · obtain ⟨r, er⟩ := flag_eq (pView o s j m) RaceKind.pWriteEnd
      dsimp only
      split
      · rw [er]; exact ⟨rfl, rfl, rfl, rfl, rfl, rfl, rfl, rfl⟩
      · exact ⟨rfl, rfl, rfl, rfl, rfl, rfl, rfl, rfl⟩

/-- state after the consumer's load of W message `m` at index `i` -/
def cView (o : Orders) (s : St) (i : Nat) (m : Msg) : St :=
  { s with cWidx := i,
           cSees := if o.wLoadC = MOrd.acquire then max s.cSees m.pub else s.cSees,
           readEnd := m.val, rdLap := m.lap, rdBase := m.base }

/-- the non-atomic read of dataEnd -/
def cReadDataEnd (s1 : St) : St :=
  let s := if s1.eWEp > s1.cSees then flag s1 RaceKind.cReadEnd else s1
  { s with eREp := s.cEpoch }

/-- what `beginRead` returns from the cells read, as one piece or as two.  Named so that `cRead` mentions a read result
    once: a literal `{ p.1 with … }` mentions it once per field, and rewriting in that is slow -/
def cOne (p : St × List Nat) : St := { p.1 with batch := p.2, pieces := [p.2] }

def cTwo (p1 p2 : St × List Nat) : St := { p2.1 with batch := p1.2 ++ p2.2, pieces := [p1.2, p2.2] }

/-- the cell reads of `beginRead`, from the state `s1` after the load of the write index `w` -/
def cRead (s1 : St) (w : Nat) : Option St :=
  if s1.cR ≤ w then some (cOne (cReadRange s1 s1.cR (w - s1.cR)))
  else if s1.cR < (cReadDataEnd s1).E then
    if (cReadDataEnd s1).E > (cReadDataEnd s1).cap then some (flag (cReadDataEnd s1) RaceKind.endOverCap)
    else
      let p1 := cReadRange (cReadDataEnd s1) s1.cR ((cReadDataEnd s1).E - s1.cR)
      some (cTwo p1 (cReadRange p1.1 0 w))
  else some (cOne (cReadRange (cReadDataEnd s1) 0 w))

theorem step_cBegin {o : Orders} {s : St} {i : Nat} {m : Msg} (hc : s.cWidx ≤ i) (hi : s.wHist[i]? = some m) :
    step o s (Op.cBegin i) = cRead (cView o s i m) m.val := by
  rw [step, if_neg (Nat.not_lt.2 hc), hi]; rfl

theorem step_cBegin_guard {o : Orders} {s s' : St} {i : Nat} (e : step o s (Op.cBegin i) = some s') :
    s.cWidx ≤ i ∧ ∃ m, s.wHist[i]? = some m := by
  rw [step, Option.ite_none_left_eq_some] at e
  refine ⟨Nat.not_lt.1 e.1, Option.ne_none_iff_exists'.1 fun hm => ?_⟩
  rw [hm] at e
  cases e.2

/-- `endRead` logs the batch unless it is empty -/
theorem flatten_ite_isEmpty {α} (d : List (List α)) (b : List α) :
    (if b.isEmpty then d else d ++ [b]).flatten = d.flatten ++ b := by
  split
  · rename_i hb; rw [List.isEmpty_iff.1 hb, List.append_nil]
  · exact List.flatten_concat

theorem cEnd_logs {o : Orders} {s s' : St} (e : step o s Op.cEnd = some s') :
    s'.delivered.flatten = s.delivered.flatten ++ s.batch ∧ s'.commits = s.commits := by
  cases e
  exact ⟨flatten_ite_isEmpty .., rfl⟩

theorem exec_eq_foldlM (o : Orders) : ∀ (tr : List Op) (s : St), exec o s tr = tr.foldlM (step o) s := by
  intro tr
  induction tr with
  | nil => intro s; rfl
  | cons a tr ih => intro s; simp only [exec, List.foldlM_cons, ih]; rfl

theorem exec_append (o : Orders) : ∀ (tr : List Op) (s : St) (op : Op),
    exec o s (tr ++ [op]) = (exec o s tr).bind (fun s' => step o s' op) := by
  intro tr s op
  simp only [exec_eq_foldlM, List.foldlM_append, List.foldlM_cons, List.foldlM_nil, bind_pure]
  rfl

theorem exec_invariant (o : Orders) (P : St → Prop)
    (hstep : ∀ s op s', P s → step o s op = some s' → P s') :
    ∀ (tr : List Op) (s s' : St), P s → exec o s tr = some s' → P s'
  | [], _, _, h, rfl => h
  | a :: tr, s, s', h, e =>
    have ⟨s1, h1, e⟩ := Option.bind_eq_some_iff.1 e
    exec_invariant o P hstep tr s1 s' (hstep s a s1 h h1) e

end BinlogVerif.Q
