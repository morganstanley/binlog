import BinlogVerif.Generated.SrcTime
import BinlogVerif.Lemmas.SrcBridgeTactic
import BinlogVerif.Lemmas.TimePrint
/- Bridge lemmas (see SrcBridgeTactic.lean). -/
namespace BinlogVerif.SrcBridge
open BinlogVerif BinlogVerif.CSem BinlogVerif.Generated

/- The scripts below read a signed wrap as the time model's, whose `wrap64_id`/`wrap32_id` ask `omega` for both bounds
   at once. -/
theorem wrap64_eq_i64 (x : Int) : Time.wrap64 x = i64 x := rfl
theorem wrap32_eq_i32 (x : Int) : Time.wrap32 x = i32 x := rfl

/-- `printTwoDigits(i)`: the assert is `0 ≤ i < 100` … -/
theorem printTwoDigits_ok (i : Int) : (Src.printTwoDigits i).ok = decide (0 ≤ i ∧ i < 100) := by
  bridge_unfold [Src.printTwoDigits]  -- the `ok` field is the assert as written: the macro's `dsimp only` closes the goal

/-- … and for such `i` the two digit values handed to the output are `i / 10` and `i % 10` -/
theorem printTwoDigits_digits (i : Int) (h0 : 0 ≤ i) (h1 : i < 100) :
    (Src.printTwoDigits i).effects = [("digit", [i / 10]), ("digit", [i % 10]), ("out.write", [2])] := by
  unfold Src.printTwoDigits
  simp (disch := omega) only [Int.tdiv_eq_ediv_of_nonneg, Int.tmod_eq_emod_of_nonneg, ← wrap32_eq_i32,
    Time.wrap32_id] <;> bridge_arith []

/-- the model's `printTwoDigits` is the source's: same assert, same digits -/
theorem printTwoDigits_model (i : Int) (h0 : 0 ≤ i) (h1 : i < 100) :
    Time.printTwoDigits i = .ok [Time.chr (48 + i / 10), Time.chr (48 + i % 10)] :=
  Time.printTwoDigits_eq i h0 h1

/-- `printTimeZoneOffset(seconds)` for every `int` value: sign character, then hours and minutes of
    the magnitude (`|INT_MIN|` = 2^31 in `unsigned` arithmetic), each replaced by 0 if it has more
    than two digits — so `printTwoDigits` is only ever called inside its asserted range -/
theorem printTimeZoneOffset_spec (seconds : Int) (h : -2147483648 ≤ seconds ∧ seconds < 2147483648) :
    let a : Int := if seconds ≥ 0 then seconds else -seconds
    (Src.printTimeZoneOffset seconds).effects =
      [("out.put", [if seconds ≥ 0 then 43 else 45]),
       ("printTwoDigits", [if a / 3600 < 100 then a / 3600 else 0]),
       ("printTwoDigits", [a / 60 % 60])] := by
  intro a
  unfold Src.printTimeZoneOffset
  dsimp only
  have hps : (if seconds ≥ 0 then u32 seconds else u32 (0 - u32 seconds)) = a := by
    unfold u32; split <;> simp only [a, *, if_true, if_false] <;> omega
  rw [hps]
  have ha : 0 ≤ a ∧ a ≤ 2147483648 := by simp only [a]; split <;> omega
  rw [Int.tdiv_eq_ediv_of_nonneg ha.1, Int.tdiv_eq_ediv_of_nonneg ha.1]
  -- what is needed of the quotients, once: no later step divides
  obtain ⟨h0, h1, e, r0, r1⟩ : 0 ≤ a / 3600 ∧ a / 3600 < 596524 ∧ a / 60 - 60 * (a / 3600) = a / 60 % 60 ∧
      0 ≤ a / 60 % 60 ∧ a / 60 % 60 < 100 := by omega
  clear hps ha h
  generalize a / 60 % 60 = r at *
  generalize a / 3600 = hh at *
  generalize a / 60 = m at *
  simp (disch := omega) only [u32_of_range, ← wrap32_eq_i32, Time.wrap32_id, e, r1, if_true]

theorem u64_natCast (n : Nat) : u64 (n : Int) = ((n % 18446744073709551616 : Nat) : Int) := by
  unfold u64; omega
theorem u64_sub_of_le (a b : Nat) (h : b ≤ a) (_ha : a < 18446744073709551616) :
    u64 ((a : Int) - (b : Int)) = (((a - b) % 18446744073709551616 : Nat) : Int) := by
  unfold u64; omega

theorem mod_div_mod (t f : Nat) : t % 18446744073709551616 / f % 18446744073709551616 = t % 18446744073709551616 / f :=
  Nat.mod_eq_of_lt (Nat.lt_of_le_of_lt (Nat.div_le_self _ _) (Nat.mod_lt _ (by decide)))
theorem mod_mod_mod (t f : Nat) : t % 18446744073709551616 % f % 18446744073709551616 = t % 18446744073709551616 % f :=
  Nat.mod_eq_of_lt (Nat.lt_of_le_of_lt (Nat.mod_le _ _) (Nat.mod_lt _ (by decide)))

theorem clockToNsSinceEpoch_bridge (cs : ClockSync) (clock : Nat)
    (h1 : cs.clockValue < 18446744073709551616) (h4 : clock < 18446744073709551616) :
    (Src.clockToNsSinceEpoch cs.clockValue cs.clockFrequency cs.nsSinceEpoch clock).ret = Time.clockToNs cs clock := by
  unfold Src.clockToNsSinceEpoch Time.clockToNs
  simp only [wrap64_eq_i64, Time.nsPerSec]
  have e : ∀ a : Nat, ((a : Int) * 1000000000) = ((a * 1000000000 : Nat) : Int) := by intro a; omega
  have e2 : ∀ a b : Nat, ((a : Int) + (b : Int)) = ((a + b : Nat) : Int) := by intro a b; omega
  by_cases h : clock ≥ cs.clockValue
  · have hi : (clock : Int) ≥ (cs.clockValue : Int) := by omega
    simp only [h, hi, decide_true, if_true]
    rw [u64_sub_of_le _ _ h h4]
    simp only [← Int.ofNat_tdiv, ← Int.ofNat_tmod, u64_natCast, e, e2, mod_div_mod, mod_mod_mod]
  · have hi : ¬ (clock : Int) ≥ (cs.clockValue : Int) := by omega
    simp only [h, hi, decide_false, if_false, Bool.false_eq_true]
    rw [u64_sub_of_le _ _ (by omega) h1]
    simp only [← Int.ofNat_tdiv, ← Int.ofNat_tmod, u64_natCast, e, e2, mod_div_mod, mod_mod_mod]

def viewSeconds (o : Src.nsSinceEpochToSeconds.Out) := (o.effects, o.tm_nsec, o.ok, o.throws)

/-- the chrono part of `nsSinceEpochToBrokenDownTimeUTC`: for every instant the printing path can produce, the
    `time_t` handed to `gmtime_r` is the FLOOR of the seconds and the nanosecond field is the non-negative remainder -/
theorem nsSinceEpochToSeconds_spec (ns nsec0 : Int) (h : -9223372036000000000 ≤ ns ∧ ns < 9223372036854775808) :
    viewSeconds (Src.nsSinceEpochToSeconds ns nsec0) = ([("gmtime_r", [ns / 1000000000])], ns % 1000000000, true, false) := by
  unfold Src.nsSinceEpochToSeconds
  -- every signed operation stays in range: each wrap goes as soon as `omega` bounds its argument; the quotient of a
  -- multiple is exact (slow to check otherwise)
  simp (disch := omega) only [Time.tdiv_of_pos _ (by decide : (0 : Int) < 1000000000), Int.mul_ediv_cancel,
    Int.dvd_mul_left, or_true, if_true, Int.add_zero, ← wrap64_eq_i64, ← wrap32_eq_i32, Time.wrap64_id,
    Time.wrap32_id] <;> bridge_arith [viewSeconds]

/-- …which is what the model's `brokenDown` does (`Time.brokenDown_eq`): model = source -/
theorem nsSinceEpochToSeconds_bridge (ns nsec0 : Int) (h0 : -9223372036000000000 ≤ ns) (h1 : ns < 9223372036854775808) :
    ∃ tt nsec, viewSeconds (Src.nsSinceEpochToSeconds ns nsec0) = ([("gmtime_r", [tt])], nsec, true, false) ∧
      Time.brokenDown ns = { Time.gmtime tt with nsec := nsec } :=
  ⟨_, _, nsSinceEpochToSeconds_spec ns nsec0 ⟨h0, h1⟩, Time.brokenDown_eq ns h0 h1⟩

end BinlogVerif.SrcBridge
