import BinlogVerif.Lemmas.QueueInv
namespace BinlogVerif.Q

theorem Inv.delivered_batch {s : St} (h : Inv s) :
    s.delivered.flatten ++ s.batch = List.range' 1 (s.rdBase + s.readEnd - 1) := by
  rw [h.g7, h.g9]
  exact range'_append_sub (Nat.le_add_right_of_le h.g1c) (by gr [h.rd_lap, h.g2b])

/-- `endRead` -/
theorem Inv.release {s : St} (h : Inv s) :
    Inv { s with cR := s.readEnd, rHist := s.rHist ++ [⟨s.readEnd, s.cEpoch, s.rdLap, s.rdBase⟩],
                 cEpoch := s.cEpoch + 1,
                 delivered := if s.batch.isEmpty then s.delivered else s.delivered ++ [s.batch],
                 batch := [], cLap := s.rdLap, cBase := s.rdBase, pieces := [] } := by
  obtain ⟨l1, l2, l3, l4⟩ := h.laps
  have hR := h.rChain.push ⟨s.readEnd, s.cEpoch, s.rdLap, s.rdBase⟩ h.p1 h.p2
  exact { h with
    a1c := by rw [List.length_append, ← h.a1c]; rfl
    a2p := by rw [List.length_append]; exact Nat.lt_add_right _ h.a2p
    a5 := forall_append_singleton h.a5 h.a1c
    a8 := forall_append_singleton h.a8 h.a9
    p1 := ple_trans h.p1 h.p2
    p2 := Or.inr ⟨rfl, Nat.le_refl _⟩
    p4 := hR.1
    p5 := hR.2
    b3 := h.b4
    d3 := fun i mi hc hi e => h.d3 i mi hc hi (by pom [ple_lap (h.p6 i mi hc hi).2])
    d4 := forall_ge_append_singleton h.d4 (fun _ hlt => absurd hlt (Nat.not_lt.2 (h.a1c ▸ h.d5)))
    d5 := Nat.le_succ_of_le h.d5
    f1 := fun x => forall_ge_append_singleton (h.f1 x) (fun _ hlt => absurd hlt (Nat.not_lt.2 (h.a1c ▸ h.f1' x)))
    f1' := fun x => Nat.le_succ_of_le (h.f1' x)
    f2 := fun x i mi hc hi hb =>
      h.f2 x i mi hc hi (btw_mono_left h.p2 (by om [ple_lap (h.p6 i mi hc hi).2]) hb)
    f2h := fun x hb => h.f2h x (btw_mono_left h.p2 (by omega) hb)
    -- f4lo, f4hi, g2b, g3: the new `c` is `rd`, which is on the old `c`'s lap or on the head's (`rd_lap`)
    f4lo := fun x e h2 h3 => by gr [h.f4lo x, h.rd_lap]
    f4hi := fun x hx => by gr [h.f4hi x, h.rd_lap]
    g1c := h.rd_lap.elim (fun a => a.2.1 ▸ h.g1c) (fun a => a.2.1 ▸ h.g1h)
    g2a := h.g2c
    g2b := fun e => by gr [h.g2b, h.rd_lap]
    g2d := fun _ => rfl
    g3 := fun i mi hc hi => ⟨(h.g3 i mi hc hi).1, fun e => by gr [h.g3 i mi hc hi, h.rd_lap]⟩
    g7 := (flatten_ite_isEmpty _ _).trans h.delivered_batch
    g8 := fun d => by
      dsimp only; split
      · exact h.g8 d
      · by_cases hd : d ≤ s.delivered.length
        · rw [List.take_append_of_le_length hd]; exact h.g8 d
        · rw [List.take_of_length_le (by simp; omega), List.flatten_concat, h.delivered_batch]
          exact Boundary.comm.1 h.g10
    g9 := by simp
    g12 := fun p => by
      simpa only [List.take_nil, List.flatten_nil, List.append_nil, flatten_ite_isEmpty, h.delivered_batch] using h.g10
    g13 := rfl
    g14 := Nat.zero_le _ }

theorem inv_cEnd (o : Orders) (ho : o.Sufficient) {s s' : St} (h : Inv s)
    (e : step o s Op.cEnd = some s') : Inv s' := by
  cases ho.eq
  simp only [step, if_true, Option.some.injEq] at e
  exact e ▸ h.release

/-- the state `beginRead` leaves when it reads W message `m` at index `i` without a race; `r`, `er`, `ps` depend on the
    branch taken, the batch does not -/
def cAfter (s : St) (i : Nat) (m : Msg) (r : List Nat) (er : Nat) (ps : List (List Nat)) : St :=
  { s with cWidx := i, cSees := max s.cSees m.pub, readEnd := m.val, rdLap := m.lap, rdBase := m.base, rEp := r,
           eREp := er, batch := List.range' (s.cBase + s.cR) (m.base + m.val - (s.cBase + s.cR)), pieces := ps }

/-- W message `m` can be read in state `s`: `[c, m)` is on the consumer's lap or reaches into the next (whose base is then
    `cBase + dataEnd`), and each of its cells, as well as `dataEnd` in the second case, was last written in an epoch that
    message `n` publishes, and holds the token of its position -/
def Readable (s : St) (m : Msg) (n : Nat) : Prop :=
  ((s.cLap = m.lap ∧ m.base = s.cBase ∧ s.cR ≤ m.val) ∨
   (s.cLap + 1 = m.lap ∧ m.base = s.cBase + s.E ∧ m.val < s.cR ∧ s.cR ≤ s.E ∧ s.E ≤ s.cap ∧ s.eWEp ≤ n)) ∧
  ∀ y, btw s.E s.cLap s.cR m.lap m.val y → s.wEp.getD y 0 ≤ n ∧
    (s.cR ≤ y → s.data.getD y 0 = s.cBase + y) ∧ (y < m.val → s.data.getD y 0 = m.base + y)

/-- what reading up to `m` leaves behind: new read stamps `r` only on cells of `[c, m)`, a new stamp `er` on `dataEnd` only
    if `m` is on the next lap, and the batch in one piece, or in two split at the end of the consumer's lap.  Of the stamps
    one direction is enough: a cell that does not keep its stamp has the current epoch and lies in `[c, m)`. -/
def Footprint (s : St) (m : Msg) (r : List Nat) (er : Nat) (ps : List (List Nat)) : Prop :=
  r.length = s.rEp.length ∧
  (∀ x, r.getD x 0 = s.rEp.getD x 0 ∨ (r.getD x 0 = s.cEpoch ∧ btw s.E s.cLap s.cR m.lap m.val x)) ∧
  (er = s.eREp ∨ (er = s.cEpoch ∧ s.cLap + 1 = m.lap)) ∧
  (ps = [List.range' (s.cBase + s.cR) (m.base + m.val - (s.cBase + s.cR))] ∨
   s.cLap + 1 = m.lap ∧ ∃ b2, ps = [List.range' (s.cBase + s.cR) (s.E - s.cR), b2] ∧
     List.range' (s.cBase + s.cR) (s.E - s.cR) ++ b2 =
       List.range' (s.cBase + s.cR) (m.base + m.val - (s.cBase + s.cR)))

/-- the cell reads of `beginRead`, model side: up to a message that is readable by stamps the consumer has seen, they flag
    no race and return the tokens of `[c, m)` -/
theorem cRead_run {s1 : St} {m : Msg} {n : Nat} (hn : n ≤ s1.cSees) (hm : Readable s1 m n) :
    ∃ r er ps, cRead s1 m.val = some { s1 with
        rEp := r, eREp := er, pieces := ps,
        batch := List.range' (s1.cBase + s1.cR) (m.base + m.val - (s1.cBase + s1.cR)) } ∧ Footprint s1 m r er ps := by
  rcases m with ⟨w, pub, l2, b'⟩
  obtain ⟨hl, hy⟩ := hm
  unfold Footprint
  dsimp only at hl hy ⊢
  have cell : ∀ {y}, btw s1.E s1.cLap s1.cR l2 w y → s1.wEp.getD y 0 ≤ s1.cSees := fun hb => Nat.le_trans (hy _ hb).1 hn
  rcases hl with ⟨e, rfl, v⟩ | ⟨e, rfl, v1, v2, hE, hw⟩
  · obtain ⟨r, er, hr⟩ := cReadRange_toks s1 s1.cR (w - s1.cR) s1.cBase (fun y => btw s1.E s1.cLap s1.cR l2 w y)
      (fun y y1 y2 => have hb := Or.inl ⟨e, y1, Nat.add_sub_cancel' v ▸ y2⟩; ⟨cell hb, (hy y hb).2.1 y1, hb⟩)
    exact ⟨r, s1.eREp, _, by rw [cRead, if_pos v, er, Nat.add_sub_add_left]; rfl, hr.1, hr.2, Or.inl rfl, Or.inl rfl⟩
  · have hs2 : cReadDataEnd s1 = { s1 with eREp := s1.cEpoch } := by
      simp only [cReadDataEnd, Nat.not_lt.2 (Nat.le_trans hw hn), GT.gt, if_false]
    have hn' : s1.cBase + s1.E + w - (s1.cBase + s1.cR) = s1.E - s1.cR + w := by
      rw [Nat.add_assoc, Nat.add_sub_add_left, Nat.sub_add_comm v2]
    have lo : ∀ y, 0 ≤ y → y < 0 + w → s1.wEp.getD y 0 ≤ s1.cSees ∧ s1.data.getD y 0 = s1.cBase + s1.E + y ∧
        btw s1.E s1.cLap s1.cR l2 w y := fun y _ y2 =>
      have hb := Or.inr ⟨e, Or.inr (Nat.zero_add w ▸ y2)⟩; ⟨cell hb, (hy y hb).2.2 (Nat.zero_add w ▸ y2), hb⟩
    rw [cRead, if_neg (Nat.not_le.2 v1), hs2, hn']
    by_cases hlt : s1.cR < s1.E
    · obtain ⟨r1, er1, hrl1, hrv1⟩ := cReadRange_toks { s1 with eREp := s1.cEpoch } s1.cR (s1.E - s1.cR) s1.cBase
        (fun y => btw s1.E s1.cLap s1.cR l2 w y)
        (fun y y1 y2 => have hb := Or.inr ⟨e, Or.inl ⟨y1, Nat.add_sub_cancel' v2 ▸ y2⟩⟩; ⟨cell hb, (hy y hb).2.1 y1, hb⟩)
      obtain ⟨r2, er2, hrl2, hrv2⟩ := cReadRange_toks { s1 with eREp := s1.cEpoch, rEp := r1 } 0 w (s1.cBase + s1.E) _ lo
      have hb : List.range' (s1.cBase + s1.cR) (s1.E - s1.cR) ++ List.range' (s1.cBase + s1.E + 0) w
          = List.range' (s1.cBase + s1.cR) (s1.E - s1.cR + w) := by
        rw [Nat.add_zero, show s1.cBase + s1.E = s1.cBase + s1.cR + (s1.E - s1.cR) by rw [Nat.add_assoc, Nat.add_sub_cancel' v2],
          List.range'_append_1]
      refine ⟨r2, _, _, ?_, hrl2.trans hrl1, fun y => ?_, Or.inr ⟨rfl, e⟩, Or.inr ⟨e, _, rfl, hb⟩⟩
      · rw [if_pos hlt, if_neg (Nat.not_lt.2 hE), er1]
        dsimp only
        rw [er2, cTwo]
        dsimp only
        rw [hb]
      · rcases hrv2 y with e | e
        · exact e ▸ hrv1 y
        · exact Or.inr e
    · obtain ⟨r, er, hrl, hrv⟩ := cReadRange_toks { s1 with eREp := s1.cEpoch } 0 w (s1.cBase + s1.E) _ lo
      refine ⟨r, _, _, ?_, hrl, hrv, Or.inr ⟨rfl, e⟩, Or.inl rfl⟩
      rw [if_neg hlt, er, cOne]
      dsimp only
      rw [Nat.add_zero, Nat.le_antisymm v2 (Nat.not_lt.1 hlt), Nat.sub_self, Nat.zero_add]

/-- …and the invariant's side: `m` publishes the last write of each cell of `[c, m)` (`f2`) and of `dataEnd` (`d3`) -/
theorem Inv.readable {s : St} (h : Inv s) {i : Nat} {m : Msg} (hc : s.cWidx ≤ i) (hi : s.wHist[i]? = some m) :
    Readable s m i := by
  obtain ⟨P1, P2⟩ := h.p6 i m hc hi
  obtain ⟨l1, -, -, l4⟩ := h.laps
  have G := h.g3 i m hc hi
  have hv : m.lap = s.hl → m.val ≤ s.pW := fun e => by omega
  rcases h.lap_cases (ple_trans h.p2 P1) (ple_lap P2) G.1 G.2 with ⟨e, eb, v⟩ | ⟨e, eb, l, v⟩
  · refine ⟨Or.inl ⟨e.symm, eb, v⟩, fun y hb => ?_⟩
    obtain ⟨y1, y2⟩ := hb.elim (·.2) fun a => absurd (a.1.trans e) (Nat.succ_ne_self _)
    have : s.data.getD y 0 = s.cBase + y := by
      by_cases c : s.cLap = s.hl
      · exact h.g2a c ▸ h.f4hi y (Or.inl ⟨c, y1, Nat.lt_of_lt_of_le y2 (hv (e.trans c))⟩)
      · have l : s.cLap + 1 = s.hl := by om [ple_lap P2]
        exact h.f4lo y l y1 (Nat.lt_of_lt_of_le y2 (h.b5 i m hc hi (e ▸ l)))
    exact ⟨h.f2 y i m hc hi hb, fun _ => this, fun _ => eb ▸ this⟩
  · have hk : s.hl = s.kLap + 1 := by omega
    have hb := h.g2b l
    have v1 : m.val < s.cR := by om [hv e, h.b2 hk, h.p1]
    refine ⟨Or.inr ⟨l.trans e.symm, eb.trans hb, v1, v, h.d1 hk, h.d3 i m hc hi (e.trans l.symm)⟩, fun y hy => ?_⟩
    exact ⟨h.f2 y i m hc hi hy, fun y1 => h.f4lo y l y1 (by omega),
      fun y2 => eb ▸ h.f4hi y (Or.inr ⟨l, Nat.lt_of_lt_of_le y2 (hv e)⟩)⟩

theorem Inv.boundary_msg {s : St} (h : Inv s) {i : Nat} {m : Msg} (hc : s.cWidx ≤ i) (hi : s.wHist[i]? = some m) :
    (s.commits.take i).flatten =
      s.delivered.flatten ++ List.range' (s.cBase + s.cR) (m.base + m.val - (s.cBase + s.cR)) := by
  rw [(h.g4 i m hi).2, h.g7]
  refine (range'_append_sub (Nat.le_add_right_of_le h.g1c) ?_).symm
  rcases (h.readable hc hi).1 with ⟨-, e, v⟩ | ⟨-, e, -, v, -⟩ <;> omega

/-- the end of the consumer's lap is a commit boundary: the producer turns to the next lap only between commits -/
theorem Inv.boundary_lapEnd {s : St} (h : Inv s) (hl : s.cLap + 1 = s.hl) :
    Boundary s.commits (s.delivered.flatten ++ List.range' (s.cBase + s.cR) (s.E - s.cR)) := by
  have := h.g11
  rwa [h.g2b hl, ← range'_append_sub (Nat.le_add_right_of_le h.g1c) (Nat.add_le_add_left (h.b3 hl) _),
    Nat.add_sub_add_left, ← h.g7] at this

/-- `beginRead`, given what its cell reads did -/
theorem Inv.read {s : St} (h : Inv s) {i : Nat} {m : Msg} (hc : s.cWidx ≤ i) (hi : s.wHist[i]? = some m)
    {r : List Nat} {er : Nat} {ps : List (List Nat)} (hf : Footprint s m r er ps) :
    Inv (cAfter s i m r er ps) := by
  obtain ⟨hrl, hrv, her, hps⟩ := hf
  obtain ⟨P1, P2⟩ := h.p6 i m hc hi
  have hW := h.wChain.advance hc hi
  have B0 := h.boundary_delivered
  have Bm : Boundary s.commits
      (s.delivered.flatten ++ List.range' (s.cBase + s.cR) (m.base + m.val - (s.cBase + s.cR))) :=
    ⟨i, h.msg_le hi, h.boundary_msg hc hi⟩
  unfold cAfter
  exact { h with
    a2c := getElem?_lt_length hi
    a3c := h.a4 i m hi ▸ Nat.le_max_right _ _
    a7r := hrl.trans h.a7r
    a9 := h.a10 i m hi
    p2 := ple_trans h.p2 P1
    p3 := P2
    p6 := hW.1
    p7 := hW.2
    b4 := h.b5 i m hc hi
    b5 := fun i' mi' hc' => h.b5 i' mi' (Nat.le_trans hc hc')
    d3 := fun i' mi' hc' => h.d3 i' mi' (Nat.le_trans hc hc')
    d4 := fun j mj hp hj hlt => by
      rcases her with rfl | ⟨rfl, hm⟩
      · exact h.d4 j mj hp hj hlt
      · -- a read of `dataEnd` means that `m` is a lap ahead of `c`, hence of every R message
        exact Nat.lt_of_lt_of_le (Nat.lt_succ_of_le (ple_lap (h.p4 j mj hp hj).2)) (le_of_eq_of_le hm (ple_lap P2))
    d5 := by
      rcases her with rfl | ⟨rfl, -⟩
      · exact h.d5
      · exact Nat.le_refl _
    f1 := fun x j mj hp hj hlt => by
      obtain ⟨M1, M2⟩ := h.p4 j mj hp hj
      have hl := Nat.le_trans h.b1 (Nat.succ_le_succ (ple_lap M1))
      rcases hrv x with e | ⟨-, hb⟩
      · exact h.f1 x j mj hp hj (e ▸ hlt)
      · exact btw_mono_right_lap P2 hl (h.b5 i m hc hi) (btw_mono_left M2 (Nat.le_trans (ple_lap P2) hl) hb)
    f1' := fun x => by
      rcases hrv x with e | ⟨e, -⟩
      · exact e ▸ h.f1' x
      · exact Nat.le_of_eq e
    f2 := fun x i' mi' hc' => h.f2 x i' mi' (Nat.le_trans hc hc')
    g2c := (h.g3 i m hc hi).1
    g2d := (h.g3 i m hc hi).2
    g3 := fun i' mi' hc' => h.g3 i' mi' (Nat.le_trans hc hc')
    g9 := rfl
    g10 := ⟨i, h.msg_le hi, (h.g4 i m hi).2⟩
    g12 := fun p => show Boundary s.commits (s.delivered.flatten ++ (ps.take p).flatten) by
      rcases hps with rfl | ⟨l, b2, rfl, e⟩
      · rcases p with _ | p
        · simpa using B0
        · simpa using Bm
      · rcases p with _ | _ | p
        · simpa using B0
        · simpa using h.boundary_lapEnd (by om [ple_lap P2, h.laps])
        · simpa [e] using Bm
    g13 := by
      rcases hps with rfl | ⟨-, b2, rfl, e⟩
      · simp
      · simp [e]
    g14 := by rcases hps with rfl | ⟨-, b2, rfl, -⟩ <;> simp }

theorem cBegin_run (o : Orders) (ho : o.Sufficient) {s : St} (h : Inv s) {i : Nat} {m : Msg}
    (hc : s.cWidx ≤ i) (hi : s.wHist[i]? = some m) :
    ∃ r er ps, step o s (Op.cBegin i) = some (cAfter s i m r er ps) ∧ Inv (cAfter s i m r er ps) := by
  cases ho.eq
  obtain ⟨r, er, ps, e, hf⟩ := cRead_run (s1 := cView {} s i m) (h.a4 i m hi ▸ Nat.le_max_right _ _) (h.readable hc hi)
  exact ⟨r, er, ps, (step_cBegin hc hi).trans e, h.read hc hi hf⟩

theorem cBegin_some (o : Orders) (ho : o.Sufficient) {s s' : St} (h : Inv s) {i : Nat}
    (e : step o s (Op.cBegin i) = some s') :
    ∃ m r er ps, s.cWidx ≤ i ∧ s.wHist[i]? = some m ∧ s' = cAfter s i m r er ps ∧ Inv s' := by
  obtain ⟨hc, m, hi⟩ := step_cBegin_guard e
  obtain ⟨r, er, ps, e', h'⟩ := cBegin_run o ho h hc hi
  rw [e', Option.some.injEq] at e
  exact ⟨m, r, er, ps, hc, hi, e.symm, e ▸ h'⟩

end BinlogVerif.Q
