import BinlogVerif.Lemmas.SessionMeta
/- The delivery invariant behind C02 and C13 (`DInv.order` is C02's statement), kept under `SyncOnClose`. -/
namespace BinlogVerif.Sess
open BinlogVerif

/-- the events of writer `w` in a ghost log, in log order -/
def ofW (w : Nat) (l : List (Nat × Entry)) : List Entry := (l.filter (fun x => x.1 == w)).map (·.2)

/-- the events of writer `w` that are still queued: its channels in creation order, each oldest first -/
def pendingOf (w : Nat) (chs : List Chan) : List Entry := (chs.filter (fun c => c.owner == w)).flatMap (·.entries)

/-- the poll used when the oracle list is too short (`pollAll` uses `headD` with this value) -/
abbrev defaultPoll : Poll := ⟨false, 0, 0⟩

/-- Observing the closed state of a channel synchronises with the writer's last commit: a poll that
    sees "closed" on a closed channel sees all of its entries.  Positional: the poll used for the
    i-th channel is `polls[i]` (default `⟨false,0,0⟩`), exactly as `pollAll` does. -/
def SyncOnClose : List Chan → List Poll → Prop
  | [], _ => True
  | c :: cs, ps =>
    ((ps.headD ⟨false, 0, 0⟩).sawClosed = true → c.closed = true →
        c.entries.length ≤ pollN c (ps.headD ⟨false, 0, 0⟩)) ∧ SyncOnClose cs ps.tail

/-- the consume happens-after the last call of writer `w`: the poll of each of its channels
    sees all its commits (positional, as `SyncOnClose`) -/
def SeesAll (w : Nat) : List Chan → List Poll → Prop
  | [], _ => True
  | c :: cs, ps =>
    (c.owner = w → c.entries.length ≤ pollN c (ps.headD ⟨false, 0, 0⟩)) ∧ SeesAll w cs ps.tail

/-- the extra side condition of an operation: `SyncOnClose` for a consume -/
def SyncOk (s : Session) : Op → Prop
  | .consume polls => SyncOnClose s.channels polls
  | _ => True

/-- trace side condition: `OpOk` for every op and `SyncOnClose` for every consume, each in the
    state where the op runs -/
def SyncTrace : Session → List Op → Prop
  | _, [] => True
  | s, op :: ops => OpOk s op ∧ SyncOk s op ∧ ∀ s', step s op = some s' → SyncTrace s' ops

instance decSyncOnClose : (L : List Chan) → (P : List Poll) → Decidable (SyncOnClose L P)
  | [], _ => isTrue trivial
  | c :: cs, ps => have := decSyncOnClose cs ps.tail; by unfold SyncOnClose; infer_instance

instance (s : Session) (op : Op) : Decidable (SyncOk s op) := by
  cases op <;> unfold SyncOk <;> infer_instance

instance decSyncTrace : (s : Session) → (ops : List Op) → Decidable (SyncTrace s ops)
  | _, [] => isTrue trivial
  | s, op :: ops =>
    match hs : step s op with
    | none => decidable_of_iff (OpOk s op ∧ SyncOk s op) (by simp [SyncTrace, hs])
    | some s' =>
      have := decSyncTrace s' ops
      decidable_of_iff (OpOk s op ∧ SyncOk s op ∧ SyncTrace s' ops) (by simp [SyncTrace, hs])

theorem SyncTrace.traceOk : ∀ {s : Session} {ops : List Op}, SyncTrace s ops → TraceOk s ops
  | _, [], _ => trivial
  | _, _ :: _, h => ⟨h.1, fun s' hs => (h.2.2 s' hs).traceOk⟩

theorem syncTrace_append (s s1 : Session) (a b : List Op) (h : SyncTrace s (a ++ b))
    (hrun : exec s a = some s1) : SyncTrace s a ∧ SyncTrace s1 b := by
  induction a generalizing s with
  | nil => cases hrun; exact ⟨trivial, h⟩
  | cons op ops ih =>
    simp only [exec] at hrun
    split at hrun
    · rename_i s2 hs
      have h' := ih s2 (h.2.2 s2 hs) hrun
      exact ⟨⟨h.1, h.2.1, fun s3 hs3 => by cases hs.symm.trans hs3; exact h'.1⟩, h'.2⟩
    · cases hrun

@[simp] theorem ofW_nil (w : Nat) : ofW w [] = [] := rfl

theorem ofW_append (w : Nat) (a b : List (Nat × Entry)) : ofW w (a ++ b) = ofW w a ++ ofW w b := by
  simp [ofW]

theorem ofW_map_owner (w o : Nat) (l : List Entry) :
    ofW w (l.map (fun e => (o, e))) = if o = w then l else [] := by
  by_cases h : o = w <;> simp [ofW, List.filter_map, Function.comp_def, h]

theorem ofW_single (w w' : Nat) (e : Entry) : ofW w [(w', e)] = if w' = w then [e] else [] :=
  ofW_map_owner w w' [e]

@[simp] theorem pendingOf_nil (w : Nat) : pendingOf w [] = [] := rfl

theorem pendingOf_cons (w : Nat) (c : Chan) (cs : List Chan) :
    pendingOf w (c :: cs) = (if c.owner = w then c.entries else []) ++ pendingOf w cs := by
  by_cases h : c.owner = w <;> simp [pendingOf, h]

theorem pendingOf_append (w : Nat) (a b : List Chan) : pendingOf w (a ++ b) = pendingOf w a ++ pendingOf w b := by
  simp [pendingOf]

theorem pendingOf_eq_nil (w : Nat) (L : List Chan) (h : ∀ c ∈ L, c.owner = w → c.entries = []) : pendingOf w L = [] := by
  rw [pendingOf, List.flatMap_eq_nil_iff]
  intro c hc
  rw [List.mem_filter, beq_iff_eq] at hc
  exact h c hc.1 hc.2

theorem pendingOf_map (w : Nat) (L : List Chan) (g : Chan → Chan)
    (hg : ∀ c, (g c).owner = c.owner ∧ (g c).entries = c.entries) : pendingOf w (L.map g) = pendingOf w L := by
  induction L with
  | nil => rfl
  | cons c cs ih => rw [List.map_cons, pendingOf_cons, pendingOf_cons, ih, (hg c).1, (hg c).2]

theorem syncOnClose_iff (L : List Chan) (P : List Poll) : SyncOnClose L P ↔
    ∀ x ∈ polled L P, x.2.sawClosed = true → x.1.closed = true → x.1.entries.length ≤ pollN x.1 x.2 := by
  induction L generalizing P with
  | nil => simp [SyncOnClose, polled]
  | cons c cs ih => simp only [SyncOnClose, polled, ih, List.forall_mem_cons]

theorem seesAll_iff (w : Nat) (L : List Chan) (P : List Poll) : SeesAll w L P ↔
    ∀ x ∈ polled L P, x.1.owner = w → x.1.entries.length ≤ pollN x.1 x.2 := by
  induction L generalizing P with
  | nil => simp [SeesAll, polled]
  | cons c cs ih => simp only [SeesAll, polled, ih, List.forall_mem_cons]

theorem pollAll_chans (L : List Chan) (P : List Poll) : (pollAll L P).chans =
    (polled L P).filterMap fun x => if (pollChan x.1 x.2).removed then none else some (pollChan x.1 x.2).chan := by
  rw [pollAll_eq]

theorem pollAll_lost (L : List Chan) (P : List Poll) (hsync : SyncOnClose L P) : (pollAll L P).lost = [] := by
  rw [pollAll_eq]
  refine List.flatMap_eq_nil_iff.mpr fun x hx => ?_
  rw [pollChan_eq]
  simp only
  split
  · rename_i hrem
    rw [Bool.and_eq_true] at hrem
    rw [List.drop_eq_nil_of_le ((syncOnClose_iff L P).mp hsync x hx hrem.1 hrem.2)]
    rfl
  · rfl

theorem pollAll_seesAll (w : Nat) (L : List Chan) (P : List Poll) (h : SeesAll w L P) :
    pendingOf w (pollAll L P).chans = [] := by
  refine pendingOf_eq_nil w _ fun c' hc' ho => ?_
  obtain ⟨x, hx, _, rfl⟩ := mem_pollAll_chans.mp hc'
  rw [pollChan_eq] at ho ⊢
  exact List.drop_eq_nil_of_le ((seesAll_iff w L P).mp h x hx ho)

abbrev SealedButLast (L : List Chan) : Prop := L.Pairwise fun c c' => c.owner = c'.owner → c.sealed = true

/-- Polling neither loses nor reorders the queued events of a writer: a channel that is followed by
    another one of `w` is sealed, hence polled completely; so is one that is removed, by `SyncOnClose`. -/
theorem pollAll_delivered_pending (w : Nat) (L : List Chan) (P : List Poll) (hs : SealedButLast L) (hsync : SyncOnClose L P) :
    ofW w (pollAll L P).delivered ++ pendingOf w (pollAll L P).chans = pendingOf w L := by
  induction L generalizing P with
  | nil => rfl
  | cons c cs ih =>
    obtain ⟨hs1, hs2⟩ := List.pairwise_cons.mp hs
    have ih1 := ih P.tail hs2 hsync.2
    have hsy := hsync.1
    simp only [pollAll]
    generalize P.headD ⟨false, 0, 0⟩ = p at hsy ⊢
    -- a channel that is removed has nothing left, so it may as well stay
    have hpend : pendingOf w (if (pollChan c p).removed = true then (pollAll cs P.tail).chans
          else (pollChan c p).chan :: (pollAll cs P.tail).chans) =
        pendingOf w ((pollChan c p).chan :: (pollAll cs P.tail).chans) := by
      split
      · rename_i hrem
        simp only [pollChan_eq, Bool.and_eq_true] at hrem
        simp [pendingOf_cons, pollChan_eq, List.drop_eq_nil_of_le (hsy hrem.1 hrem.2)]
      · rfl
    rw [hpend, pendingOf_cons, pendingOf_cons, ofW_append, ofW_map_owner, pollChan_eq]
    by_cases hw : c.owner = w
    · simp only [hw, if_true]
      -- the batch is everything, unless `c` is the last channel of `w`
      by_cases hseal : c.sealed = true
      · rw [← ih1]
        simp [pollN, hseal]
      · have hnone : pendingOf w cs = [] :=
          pendingOf_eq_nil w cs fun x hx hxo => absurd (hs1 x hx (hw.trans hxo.symm)) hseal
        rw [hnone] at ih1 ⊢
        simp [List.append_eq_nil_iff.mp ih1]
    · simpa [hw] using ih1

theorem pollAll_events (L : List Chan) (P : List Poll) (h : ∀ c ∈ L, ∀ e ∈ c.entries, e.isEvent = true) :
    ((pollAll L P).writes.flatten).filter Entry.isEvent = (pollAll L P).delivered.map (·.2) := by
  rw [pollAll_eq]
  simp only [List.flatMap_def, List.flatten_flatten, List.map_flatten, List.map_map]
  rw [List.filter_flatten, List.map_map]
  -- channel by channel: of what a poll writes, the batch is the events
  refine congrArg _ (List.map_congr_left fun x hx => ?_)
  have hall : (x.1.entries.take (pollN x.1 x.2)).filter Entry.isEvent = x.1.entries.take (pollN x.1 x.2) :=
    List.filter_eq_self.mpr fun e he => h x.1 (mem_polled hx) e (List.mem_of_mem_take he)
  simp only [Function.comp]
  rw [pollChan_writes_flat, pollChan_eq]
  split
  · rename_i he; simp [List.isEmpty_iff.mp he]
  · simp [Entry.isEvent, hall, Function.comp_def]

def OutInv (s : Session) : Prop :=
  (s.outputs.flatten.flatten).filter Entry.isEvent = s.delivered.map (·.2)

/-- Only `consume` and `rotate` write, and what they write besides the polled events is metadata. -/
theorem outInv_step (s : Session) (op : Op) (s' : Session) (hm : MetaInv s) (h : OutInv s)
    (hstep : step s op = some s') : OutInv s' := by
  have hcs : s.clockSyncs.filter Entry.isEvent = [] := filter_isEvent_noEvents (noEvents_of_css hm.css_are)
  have hsrc : ∀ n, (s.sources.take n).filter Entry.isEvent = [] ∧ (s.sources.drop n).filter Entry.isEvent = [] := fun n =>
    ⟨filter_isEvent_noEvents (noEvents_of_sources fun e he => hm.srcs_are e (List.mem_of_mem_take he)),
     filter_isEvent_noEvents (noEvents_of_sources fun e he => hm.srcs_are e (List.mem_of_mem_drop he))⟩
  refine step_cases hstep ?createWriter ?setWriterId ?setWriterName ?addSource ?logFits ?logReplace ?destroyWriter
    ?setClockSync ?consume ?rotate
  case consume =>
    intro polls
    have hev : ∀ c ∈ s.channels, ∀ e ∈ c.entries, e.isEvent = true := fun c hc e he => by
      obtain ⟨_, _, _, rfl, _⟩ := hm.chans c hc e he; rfl
    show List.filter _ (List.flatten (List.flatten (s.outputs.dropLast ++ [_ ++ consumeWrites s polls]))) =
      List.map _ (s.delivered ++ _)
    rw [flatten_emit, List.flatten_append, consumeWrites_flatten, List.filter_append, List.filter_append,
      List.filter_append, h, (hsrc _).2, pollAll_events s.channels polls hev, List.map_append]
    split <;> simp [hcs]
  case rotate =>
    show List.filter _ (List.flatten (List.flatten (s.outputs ++ [[s.clockSyncs, s.sources.take s.sourcesConsumed]]))) = _
    simp [List.filter_append, show _ = _ from h, hcs, (hsrc _).1]
  all_goals intros; exact h

/-- `lookupWriter` on the writer ↦ channel map alone, which is what `DInv` sees of the session; `step_cases` hands out
    `lookupWriter s w = some cid`, and `delivInv_step` passes it on as it is, the two being the same by `rfl` -/
def lookupIn (wc : List (Nat × Nat)) (w : Nat) : Option Nat := (wc.find? (·.1 == w)).map (·.2)

theorem lookupWriter_eq (s : Session) (w : Nat) : lookupWriter s w = lookupIn s.writerChan w := rfl

/-- `setWriter _ w none` on the writer ↦ channel map -/
theorem lookupIn_del (wc : List (Nat × Nat)) (w w' : Nat) :
    lookupIn (wc.filter (·.1 != w)) w' = if w' = w then none else lookupIn wc w' := by
  unfold lookupIn
  rw [List.find?_filter]
  split
  · subst w'; simp
  · rename_i hw
    congr 2; funext x
    by_cases hx : x.1 = w' <;> simp [hx, hw]

/-- `setWriter _ w (some c)` on the writer ↦ channel map -/
theorem lookupIn_set (wc : List (Nat × Nat)) (w w' c : Nat) :
    lookupIn (wc.filter (·.1 != w) ++ [(w, c)]) w' = if w' = w then some c else lookupIn wc w' := by
  have := lookupIn_del wc w w'
  unfold lookupIn at this ⊢
  rw [List.find?_append, Option.map_or, this]
  by_cases hw : w' = w
  · simp [hw]
  · have : ¬ w = w' := fun e => hw e.symm
    simp [hw, this]

/-- The delivery invariant, on the components of the state it reads (`DelivInv`), so that the effect of an operation is
    a statement about lists and not about record updates. -/
structure DInv (L : List Chan) (next : Nat) (wc : List (Nat × Nat)) (acc del lost : List (Nat × Entry)) : Prop where
  order : ∀ w, ofW w acc = ofW w del ++ pendingOf w L
  nolost : lost = []
  sealed : SealedButLast L
  cids : L.Pairwise fun c c' => c.cid ≠ c'.cid
  cid_lt : ∀ c ∈ L, c.cid < next
  /-- the channel a writer holds is not sealed, so it is the writer's last -/
  cur : ∀ w cid, lookupIn wc w = some cid → ∃ c ∈ L, c.cid = cid ∧ c.owner = w ∧ c.closed = false ∧ c.sealed = false

def DelivInv (s : Session) : Prop :=
  DInv s.channels s.nextCid s.writerChan s.accepted s.delivered s.lost

theorem delivInv_init (cs : ClockSync) : DelivInv (init cs) :=
  ⟨fun _ => rfl, rfl, .nil, .nil, fun _ hc => (nomatch hc), fun _ _ h => (nomatch h)⟩

section
variable {L : List Chan} {next : Nat} {wc : List (Nat × Nat)} {acc del lost : List (Nat × Entry)}

theorem DInv.split (h : DInv L next wc acc del lost) {w cid : Nat} (hl : lookupIn wc w = some cid) :
    ∃ pre c post, L = pre ++ c :: post ∧ c.cid = cid ∧ c.owner = w ∧
      (∀ x ∈ pre, x.cid ≠ cid ∧ (x.owner = w → x.sealed = true)) ∧ (∀ x ∈ post, x.cid ≠ cid ∧ x.owner ≠ w) := by
  obtain ⟨c, hc, h1, h2, _, h4⟩ := h.cur w cid hl
  obtain ⟨pre, post, rfl⟩ := List.append_of_mem hc
  obtain ⟨_, hs2, hs3⟩ := List.pairwise_append.mp h.sealed
  obtain ⟨_, hc2, hc3⟩ := List.pairwise_append.mp h.cids
  refine ⟨pre, c, post, rfl, h1, h2, fun x hx => ⟨h1 ▸ hc3 x hx c (by simp), fun ho => hs3 x hx c (by simp) (ho.trans h2.symm)⟩,
    fun x hx => ⟨fun e => (List.pairwise_cons.mp hc2).1 x hx (h1.trans e.symm), fun ho => ?_⟩⟩
  have := (List.pairwise_cons.mp hs2).1 x hx (h2.trans ho.symm)
  rw [h4] at this; cases this

/-- `c'` has the identity and the state of `c`: what an `updChan` that writes `wp` or `entries`, and a poll, make of a
    channel.  The clauses of `DInv` other than `order` read nothing else of a channel. -/
structure Same (c c' : Chan) : Prop where
  cid : c'.cid = c.cid
  owner : c'.owner = c.owner
  closed : c'.closed = c.closed
  sealed : c'.sealed = c.sealed

/-- The channels `X.map π` are replaced, in order, by channels `Same` to them, and closed ones may go: an `updChan` (`X` the
    channels), a `consume` (`X` the channels with their polls). -/
theorem DInv.filterMap {α : Type} {X : List α} {π : α → Chan} {g : α → Option Chan} {acc' del' lost' : List (Nat × Entry)}
    (h : DInv (X.map π) next wc acc del lost) (hg : ∀ x c', g x = some c' → Same (π x) c')
    (hrem : ∀ x, g x = none → (π x).closed = true)
    (horder : ∀ w, ofW w acc' = ofW w del' ++ pendingOf w (X.filterMap g)) (hlost : lost' = []) :
    DInv (X.filterMap g) next wc acc' del' lost' := by
  refine ⟨horder, hlost,
    (List.pairwise_map.mp h.sealed).filterMap g fun x y hxy b hb b' hb' ho => ?_,
    (List.pairwise_map.mp h.cids).filterMap g fun x y hxy b hb b' hb' => ?_, fun c' hc' => ?_, fun w cid hl => ?_⟩
  · rw [(hg x b hb).sealed]
    exact hxy ((hg x b hb).owner.symm.trans (ho.trans (hg y b' hb').owner))
  · rw [(hg x b hb).cid, (hg y b' hb').cid]
    exact hxy
  · obtain ⟨x, hx, hgx⟩ := List.mem_filterMap.mp hc'
    rw [(hg x c' hgx).cid]
    exact h.cid_lt _ (List.mem_map_of_mem hx)
  · obtain ⟨c, hc, h1, h2, h3, h4⟩ := h.cur w cid hl
    obtain ⟨x, hx, rfl⟩ := List.mem_map.mp hc
    cases hgx : g x with
    | none => rw [hrem x hgx] at h3; cases h3
    | some c' =>
      have hs := hg x c' hgx
      exact ⟨c', List.mem_filterMap.mpr ⟨x, hx, hgx⟩, hs.cid.trans h1, hs.owner.trans h2, hs.closed.trans h3,
        hs.sealed.trans h4⟩

theorem dinv_same {acc' : List (Nat × Entry)} (cid : Nat) {f : Chan → Chan} (hf : ∀ c, Same c (f c))
    (h : DInv L next wc acc del lost) (horder : ∀ w, ofW w acc' = ofW w del ++ pendingOf w (L.map (upd cid f))) :
    DInv (L.map (upd cid f)) next wc acc' del lost := by
  rw [← List.filterMap_eq_map] at horder ⊢
  exact DInv.filterMap (π := id) ((List.map_id L).symm ▸ h)
    (fun x _ e => Option.some.inj e ▸ upd_keeps cid f Same (fun _ => ⟨rfl, rfl, rfl, rfl⟩) hf x) (fun _ e => nomatch e)
    horder h.nolost

theorem delivInv_updChan_wp {s : Session} {cid : Nat} {f : Chan → Chan} (hf : ∀ c, f c = { c with wp := (f c).wp })
    (h : DelivInv s) : DelivInv (updChan s cid f) := by
  refine dinv_same cid (fun c => by rw [hf c]; exact ⟨rfl, rfl, rfl, rfl⟩) h fun w => ?_
  rw [pendingOf_map w _ _ (upd_keeps cid f (fun c c' => c'.owner = c.owner ∧ c'.entries = c.entries) (fun _ => ⟨rfl, rfl⟩)
    fun c => by rw [hf c]; exact ⟨rfl, rfl⟩)]
  exact h.order w

/-- `hsealed`: there are no older channels of `w` when the writer is created; a replacement has sealed them -/
theorem dinv_create (w : Nat) (wp : WriterProp) (h : DInv L next wc acc del lost)
    (hsealed : ∀ c ∈ L, c.owner = w → c.sealed = true) :
    DInv (L ++ [{ cid := next, owner := w, wp := wp, entries := [], closed := false, sealed := false }]) (next + 1)
      (wc.filter (·.1 != w) ++ [(w, next)]) acc del lost := by
  refine ⟨fun w' => ?_, h.nolost, ?_, ?_, ?_, ?_⟩
  · rw [pendingOf_append, h.order w']
    simp [pendingOf_cons]
  · exact List.pairwise_append.mpr ⟨h.sealed, List.pairwise_singleton _ _,
      fun a ha b hb ho => hsealed a ha (by rw [ho, List.mem_singleton.mp hb])⟩
  · exact List.pairwise_append.mpr ⟨h.cids, List.pairwise_singleton _ _,
      fun a ha b hb => by rw [List.mem_singleton.mp hb]; exact Nat.ne_of_lt (h.cid_lt a ha)⟩
  · intro c hc
    rcases List.mem_append.mp hc with hc | hc
    · exact Nat.lt_succ_of_lt (h.cid_lt c hc)
    · rw [List.mem_singleton.mp hc]; exact Nat.lt_succ_self _
  · intro w' cid hl
    rw [lookupIn_set] at hl
    split at hl
    · cases hl; subst w'
      exact ⟨_, List.mem_append_right _ (List.mem_singleton_self _), rfl, rfl, rfl, rfl⟩
    · obtain ⟨c, hc, hr⟩ := h.cur w' cid hl
      exact ⟨c, List.mem_append_left _ hc, hr⟩

theorem dinv_log_fits (w cid : Nat) (e : Entry) (h : DInv L next wc acc del lost) (hl : lookupIn wc w = some cid) :
    DInv (L.map (upd cid (fun c => { c with entries := c.entries ++ [e] }))) next wc (acc ++ [(w, e)]) del lost := by
  refine dinv_same cid (fun _ => ⟨rfl, rfl, rfl, rfl⟩) h fun w' => ?_
  obtain ⟨pre, c, post, rfl, h1, h2, hpre, hpost⟩ := h.split hl
  rw [map_upd_decomp pre post c cid _ (fun x hx => (hpre x hx).1) (fun x hx => (hpost x hx).1) h1,
    ofW_append, ofW_single, h.order w']
  simp only [pendingOf_append, pendingOf_cons, h2]
  by_cases hw : w = w'
  · subst hw; simp [pendingOf_eq_nil w post fun x hx ho => absurd ho (hpost x hx).2]
  · simp [hw]

/-- the writer drops its reference to the channel it holds: destroy (`f` closes), or the first half of a replacement
    (`f` also seals).  The second part is for the latter: all channels of `w` are then sealed, as `dinv_create` asks
    before the new channel is added. -/
theorem dinv_close (w cid : Nat) (f : Chan → Chan)
    (hf : ∀ c, (f c).owner = c.owner ∧ (f c).cid = c.cid ∧ (c.sealed = true → (f c).sealed = true) ∧
      (f c).entries = c.entries)
    (h : DInv L next wc acc del lost) (hl : lookupIn wc w = some cid) :
    DInv (L.map (upd cid f)) next (wc.filter (·.1 != w)) acc del lost ∧
      ((∀ c, (f c).sealed = true) → ∀ c ∈ L.map (upd cid f), c.owner = w → c.sealed = true) := by
  have hk := upd_keeps cid f
    (fun c c' => c'.owner = c.owner ∧ c'.cid = c.cid ∧ (c.sealed = true → c'.sealed = true) ∧ c'.entries = c.entries)
    (fun c => ⟨rfl, rfl, id, rfl⟩) hf
  obtain ⟨pre, c, post, hL, h1, h2, hpre, hpost⟩ := h.split hl
  refine ⟨⟨fun w' => ?_, h.nolost,
    h.sealed.map _ fun a b hab ho => (hk a).2.2.1 (hab ((hk a).1.symm.trans (ho.trans (hk b).1))),
    h.cids.map _ fun a b hab => by rw [(hk a).2.1, (hk b).2.1]; exact hab,
    forall_mem_map_upd (Q := fun c => c.cid < next) (fun c hc => (hf c).2.1 ▸ hc) h.cid_lt, fun w' cid' hl' => ?_⟩,
    fun hseal x hx hxo => ?_⟩
  · rw [pendingOf_map w' _ _ fun c => ⟨(hk c).1, (hk c).2.2.2⟩]
    exact h.order w'
  · rw [lookupIn_del] at hl'
    split at hl'
    · cases hl'
    · rename_i hw
      obtain ⟨c', hc', h1', h2', hr⟩ := h.cur w' cid' hl'
      have hne : c'.cid ≠ cid := by
        rw [hL] at hc'
        rcases List.mem_append.mp hc' with hc' | hc'
        · exact (hpre c' hc').1
        · rcases List.mem_cons.mp hc' with rfl | hc'
          · exact absurd (h2'.symm.trans h2) hw
          · exact (hpost c' hc').1
      exact ⟨c', upd_of_ne cid f c' hne ▸ List.mem_map_of_mem hc', h1', h2', hr⟩
  · rw [hL, map_upd_decomp pre post c cid _ (fun x hx => (hpre x hx).1) (fun x hx => (hpost x hx).1) h1] at hx
    rcases List.mem_append.mp hx with hx | hx
    · exact (hpre x hx).2 hxo
    · rcases List.mem_cons.mp hx with rfl | hx
      · exact hseal c
      · exact absurd hxo (hpost x hx).2

theorem dinv_consume (P : List Poll) (h : DInv L next wc acc del lost) (hsync : SyncOnClose L P) :
    DInv (pollAll L P).chans next wc acc (del ++ (pollAll L P).delivered) (lost ++ (pollAll L P).lost) := by
  have horder : ∀ w, ofW w acc = ofW w (del ++ (pollAll L P).delivered) ++ pendingOf w (pollAll L P).chans := fun w => by
    rw [ofW_append, List.append_assoc, pollAll_delivered_pending w L P h.sealed hsync]
    exact h.order w
  rw [pollAll_chans] at horder ⊢
  refine DInv.filterMap (π := (·.1)) ((polled_fst L P).symm ▸ h) (fun x c' e => ?_) (fun x e => ?_) horder
    (by rw [h.nolost, pollAll_lost L P hsync]; rfl)
  · split at e <;> cases e
    rw [pollChan_eq]
    exact ⟨rfl, rfl, rfl, rfl⟩
  · split at e
    · rename_i hr
      rw [pollChan_eq, Bool.and_eq_true] at hr
      exact hr.2
    · cases e

end

theorem delivInv_step (s : Session) (op : Op) (s' : Session) (h : DelivInv s) (hok : OpOk s op)
    (hsync : SyncOk s op) (hstep : step s op = some s') : DelivInv s' := by
  revert hok hsync
  refine step_cases hstep ?createWriter ?setWriterId ?setWriterName ?addSource ?logFits ?logReplace ?destroyWriter
    ?setClockSync ?consume ?rotate
  case createWriter =>
    intro w id name hok _
    have h1 : DelivInv (setWriter (newChan s w {}).1 w (some s.nextCid)) :=
      dinv_create w {} h fun c hc ho => absurd ho (hok.2 c hc)
    exact delivInv_updChan_wp (fun _ => by split <;> rfl) (delivInv_updChan_wp (fun _ => by split <;> rfl) h1)
  case setWriterId => exact fun w id cid _ _ _ => delivInv_updChan_wp (fun _ => rfl) h
  case setWriterName => exact fun w name cid _ _ _ => delivInv_updChan_wp (fun _ => rfl) h
  case addSource => exact fun _ _ _ => h
  case logFits => exact fun w sid clock args cid hl _ _ => dinv_log_fits w cid _ h hl
  case logReplace =>
    -- replaceChannel = drop the reference to the old channel (sealing it), create a new channel,
    -- append the event to it; the model creates first, which is the same since `cid < nextCid`
    intro w sid clock args cid old hl _ _ _
    obtain ⟨h1, hall⟩ := dinv_close w cid (fun c => { c with closed := true, sealed := true })
      (fun _ => ⟨rfl, rfl, fun _ => rfl, rfl⟩) h hl
    have h3 := dinv_log_fits w s.nextCid (Entry.event sid clock args)
      (dinv_create w { id := old.wp.id, name := old.wp.name, batchSize := 0 } h1 (hall fun _ => rfl))
      (by rw [lookupIn_set, if_pos rfl])
    obtain ⟨c, hc, hcid, _⟩ := h.cur w cid hl
    have hshape : ∀ n : Chan, n.cid = s.nextCid →
        (s.channels ++ [n]).map (upd cid fun c => { c with closed := true, sealed := true }) =
          s.channels.map (upd cid fun c => { c with closed := true, sealed := true }) ++ [n] := fun n hn => by
      rw [List.map_append, List.map_cons, List.map_nil, upd_of_ne]
      exact fun e => Nat.lt_irrefl _ (hn ▸ e ▸ hcid ▸ h.cid_lt c hc)
    simp only [List.filter_filter, Bool.and_self] at h3
    rw [← hshape _ rfl] at h3
    exact h3
  case destroyWriter =>
    exact fun w cid hl _ _ => (dinv_close w cid (fun c => { c with closed := true }) (fun _ => ⟨rfl, rfl, id, rfl⟩) h hl).1
  case setClockSync => exact fun _ _ _ => h
  case consume => exact fun polls _ hsync => dinv_consume polls h hsync
  case rotate => exact fun _ _ => h

theorem delivInv_exec (cs : ClockSync) (ops : List Op) (s : Session) (hok : SyncTrace (init cs) ops)
    (hrun : exec (init cs) ops = some s) : DelivInv s :=
  (exec_invariant (fun s ops => DelivInv s ∧ SyncTrace s ops)
    (fun s op _ s1 h hs => ⟨delivInv_step s op s1 h.1 h.2.1 h.2.2.1 hs, h.2.2.2 s1 hs⟩) ⟨delivInv_init cs, hok⟩ hrun).1

/-- what a log call hands to the session: (writer, event) -/
def logCall : Op → List (Nat × Entry)
  | .log w sid clock args _ => [(w, Entry.event sid clock args)]
  | _ => []

def logCalls (ops : List Op) : List (Nat × Entry) := ops.flatMap logCall

theorem step_accepted (s : Session) (op : Op) (s' : Session) (h : step s op = some s') :
    s'.accepted = s.accepted ++ logCall op := by
  refine step_cases h ?_ ?_ ?_ ?_ ?_ ?_ ?_ ?_ ?_ ?_ <;> intros <;> simp only [logCall, List.append_nil] <;> rfl

theorem exec_accepted (s : Session) (ops : List Op) (s' : Session) (h : exec s ops = some s') :
    s'.accepted = s.accepted ++ logCalls ops := by
  have := exec_invariant (fun s1 ops1 => s1.accepted ++ logCalls ops1 = s.accepted ++ logCalls ops)
    (fun s1 op ops1 s2 h1 hs => by rw [step_accepted s1 op s2 hs, List.append_assoc]; exact h1) rfl h
  simpa [logCalls] using this

theorem step_nextSourceId (s : Session) (op : Op) (s' : Session) (h : step s op = some s') :
    s.nextSourceId ≤ s'.nextSourceId := by
  refine step_cases h ?_ ?_ ?_ (fun _ => Nat.le_succ _) ?_ ?_ ?_ ?_ ?_ ?_ <;> intros <;> exact Nat.le_refl _

def AccValid (s : Session) : Prop :=
  ∀ x ∈ s.accepted, EventOk s.nextSourceId x.2

theorem accValid_exec (cs : ClockSync) (ops : List Op) (s : Session) (hok : TraceOk (init cs) ops)
    (hrun : exec (init cs) ops = some s) : AccValid s := by
  refine exec_induction AccValid (init cs) ops s (by intro x hx; simp [init] at hx) hok (fun s op s' h hok hstep x hx => ?_) hrun
  rw [step_accepted s op s' hstep, List.mem_append] at hx
  have hmono := step_nextSourceId s op s' hstep
  cases hx with
  | inl hx =>
    obtain ⟨sid, clock, args, e, h1, h2⟩ := h x hx
    exact ⟨sid, clock, args, e, h1, by omega⟩
  | inr hx =>
    cases op with
    | log w sid clock args fits =>
      simp only [logCall, List.mem_singleton] at hx
      subst hx
      exact ⟨sid, clock, args, rfl, hok.1, by have := hok.2; omega⟩
    | _ => simp [logCall] at hx

end BinlogVerif.Sess
