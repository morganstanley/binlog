import BinlogVerif.Base.CSem
/-
  Bridge lemmas: the hand-written model computes what the definitions GENERATED from the C++ source text
  (Generated/Src*.lean, tools/c2lean.py) compute, for all inputs in the range the callers guarantee (indices ≤ capacity
  < 2^63, 64-bit clock values, …).  They are proof obligations of the checks.  An edit of the C++ that changes what one
  of these functions computes regenerates a definition of which the lemma fails; an edit that does not (a renamed local,
  reordered independent statements, an equivalent expression or branch structure) regenerates one of which the same
  script still succeeds, because the script never mentions the shape of the generated term: it unfolds both sides,
  splits every `if` of either side and closes each combination of branches by linear integer arithmetic (`omega`,
  literal moduli).  `printTimeZoneOffset_spec` and `clockToNsSinceEpoch_bridge` (SrcBridgeTime.lean) also rewrite with
  facts about subterms of the source, and to that extent depend on how it is written.

  Each statement compares a *view* (the tuple of outputs that matter) of the generated record with the view of the
  model's result, so that each side's `if` tree occurs once in the goal.
-/
namespace BinlogVerif.SrcBridge
open BinlogVerif.CSem

/-- unfold the generated definition and the model function, the wrap functions wherever they occur, and the `let`s -/
syntax "bridge_unfold" "[" ident,* "]" : tactic
macro_rules
  | `(tactic| bridge_unfold [$ids,*]) =>
    `(tactic| (unfold $[$ids:ident]*; (try unfold u64); (try unfold i64); (try unfold u32); (try unfold i32); (try dsimp only)))

/-- a wrap whose argument the hypotheses put in range disappears (wherever it occurs), so that `omega` does not meet its
    modulus in every branch; it stands between a plain `unfold` of the two definitions and `bridge_unfold []`, which
    then unfolds the wraps that are left and the `let`s -/
syntax "bridge_range" : tactic
macro_rules
  | `(tactic| bridge_range) =>
    `(tactic| try simp (disch := omega) only [u64_of_range, i64_of_range, u32_of_range, i32_of_range])

/-- split every `if` of either side, unfold the listed views, and close each combination of branches by `omega`
    (or by `simp` where a branch is closed by evaluation) -/
syntax "bridge_arith" "[" ident,* "]" : tactic
macro_rules
  | `(tactic| bridge_arith [$ids,*]) =>
    `(tactic| ((repeat' split) <;> (try simp only [$[$ids:ident],*, Prod.mk.injEq]) <;> (repeat' apply And.intro) <;>
               (first | omega | (simp; done) | (simp; omega))))

end BinlogVerif.SrcBridge
