import BinlogVerif.Mser.Ty
/-
  The count-indexed members of the codec model (`sizeAll`, `decodeN`) repeat one element type, so they are list inductions
  that take the element fact as a hypothesis (`…_of`): that keeps the mutual inductions over `Ty` structurally recursive.
-/
namespace BinlogVerif.Mser
open BinlogVerif BinlogVerif.Visit

theorem hasTy_num {c : UInt8} {raw : Nat} (h : hasTy (.arith c) (.num raw) = true) :
    ∃ sz, arithSize c = some sz ∧ raw < 256 ^ sz := by
  simp only [hasTy] at h
  cases hs : arithSize c with
  | none => simp [hs] at h
  | some sz => exact ⟨sz, rfl, by simpa [hs] using h⟩

theorem hasTy_enum (u : UInt8) (nm : Bytes) (es : List (Bytes × Bytes)) (raw : Nat) :
    hasTy (.enum u nm es) (.num raw) = hasTy (.arith u) (.num raw) := by rw [hasTy, hasTy]

theorem hasTyList_nil {vs : List Val} (h : hasTyList [] vs = true) : vs = [] := by
  cases vs with
  | nil => rfl
  | cons _ _ => simp [hasTyList.eq_def] at h

theorem hasTyList_cons {t : Ty} {ts : List Ty} {vs : List Val} (h : hasTyList (t :: ts) vs = true) :
    ∃ v vs', vs = v :: vs' ∧ hasTy t v = true ∧ hasTyList ts vs' = true := by
  cases vs with
  | nil => simp [hasTyList.eq_def] at h
  | cons v vs' => simp only [hasTyList, Bool.and_eq_true] at h; exact ⟨v, vs', rfl, h⟩

theorem hasTyFields_nil {vs : List Val} (h : hasTyFields [] vs = true) : vs = [] := by
  cases vs with
  | nil => rfl
  | cons _ _ => simp [hasTyFields.eq_def] at h

theorem hasTyFields_cons {n : Bytes} {t : Ty} {fs : List (Bytes × Ty)} {vs : List Val}
    (h : hasTyFields ((n, t) :: fs) vs = true) :
    ∃ v vs', vs = v :: vs' ∧ hasTy t v = true ∧ hasTyFields fs vs' = true := by
  cases vs with
  | nil => simp [hasTyFields.eq_def] at h
  | cons v vs' => simp only [hasTyFields, Bool.and_eq_true] at h; exact ⟨v, vs', rfl, h⟩

theorem hasTyFields_single {f : Bytes} {t : Ty} {vs : List Val} (h : hasTyFields [(f, t)] vs = true) :
    ∃ v, vs = [v] ∧ hasTy t v = true := by
  obtain ⟨v, vs', rfl, hv, hn⟩ := hasTyFields_cons h
  cases hasTyFields_nil hn
  exact ⟨v, rfl, hv⟩

theorem hasTyNth_lt {alts : List Ty} {i : Nat} {v : Val} (h : hasTyNth alts i v = true) : i < alts.length := by
  induction alts generalizing i with
  | nil => simp [hasTyNth.eq_def] at h
  | cons a alts ih =>
    cases i with
    | zero => simp
    | succ i => simp only [hasTyNth] at h; have := ih h; simp; omega

theorem sizeAll_eq_of (e : Ty) (ih : ∀ v, hasTy e v = true → size e v = (encode e v).length)
    (vs : List Val) (h : hasTyAll e vs = true) : sizeAll e vs = (encodeAll e vs).length := by
  induction vs with
  | nil => simp [sizeAll, encodeAll]
  | cons v vs ihv =>
    simp only [hasTyAll, Bool.and_eq_true] at h
    simp only [sizeAll, encodeAll, List.length_append]
    rw [ih v h.1, ihv h.2]

theorem sizeAll_arith (c : UInt8) (vs : List Val) (h : hasTyAll (.arith c) vs = true) :
    sizeAll (.arith c) vs = vs.length * (arithSize c).getD 0 := by
  induction vs with
  | nil => simp [sizeAll]
  | cons v vs ihv =>
    simp only [hasTyAll, Bool.and_eq_true] at h
    simp only [sizeAll, List.length_cons]
    rw [ihv h.2]
    cases v with
    | num raw => simp only [size]; rw [Nat.add_mul]; omega
    | _ => simp [hasTy.eq_def] at h

theorem size_seq (e : Ty) (vs : List Val) (h : hasTyAll e vs = true) :
    size (.seq e) (.seq vs) = 4 + sizeAll e vs := by
  cases e with
  | arith c => rw [size, sizeAll_arith c vs h]
  | _ => simp only [size]

mutual
theorem size_eq (t : Ty) (v : Val) (h : hasTy t v = true) : size t v = (encode t v).length := by
  cases t with
  | arith c => cases v with
    | num raw => simp [size, encode]
    | _ => simp [hasTy.eq_def] at h
  | seq e => cases v with
    | seq vs =>
      simp only [hasTy, Bool.and_eq_true] at h
      rw [size_seq e vs h.1, sizeAll_eq_of e (fun v h => size_eq e v h) vs h.1, encode, List.length_append,
        le_length]
    | _ => simp [hasTy.eq_def] at h
  | tup es => cases v with
    | tup vs => simp only [hasTy] at h; simp only [size, encode]; exact sizeList_eq es vs h
    | _ => simp [hasTy.eq_def] at h
  | var alts => cases v with
    | alt i v =>
      simp only [hasTy, Bool.and_eq_true] at h
      simp only [size, encode, List.length_append, le_length]
      rw [sizeNth_eq alts i v h.2]
    | _ => simp [hasTy.eq_def] at h
  | null => cases v with
    | nul => simp [size, encode]
    | _ => simp [hasTy.eq_def] at h
  | enum u n es => cases v with
    | num raw => simp [size, encode]
    | _ => simp [hasTy.eq_def] at h
  | struct n fs => cases v with
    | tup vs => simp only [hasTy] at h; simp only [size, encode]; exact sizeFields_eq fs vs h
    | _ => simp [hasTy.eq_def] at h
termination_by structural t
theorem sizeList_eq (es : List Ty) (vs : List Val) (h : hasTyList es vs = true) :
    sizeList es vs = (encodeList es vs).length := by
  cases es with
  | nil => cases hasTyList_nil h; simp [sizeList, encodeList]
  | cons t ts =>
    obtain ⟨v, vs, rfl, h1, h2⟩ := hasTyList_cons h
    simp only [sizeList, encodeList, List.length_append]
    rw [size_eq t v h1, sizeList_eq ts vs h2]
termination_by structural es
theorem sizeFields_eq (fs : List (Bytes × Ty)) (vs : List Val) (h : hasTyFields fs vs = true) :
    sizeFields fs vs = (encodeFields fs vs).length := by
  cases fs with
  | nil => cases hasTyFields_nil h; simp [sizeFields, encodeFields]
  | cons a fs =>
    obtain ⟨n, t⟩ := a
    obtain ⟨v, vs, rfl, h1, h2⟩ := hasTyFields_cons h
    simp only [sizeFields, encodeFields, List.length_append]
    rw [size_eq t v h1, sizeFields_eq fs vs h2]
termination_by structural fs
theorem sizeNth_eq (alts : List Ty) (i : Nat) (v : Val) (h : hasTyNth alts i v = true) :
    sizeNth alts i v = (encodeNth alts i v).length := by
  cases alts with
  | nil => simp [hasTyNth.eq_def] at h
  | cons t ts => cases i with
    | zero => simp only [hasTyNth] at h; simp only [sizeNth, encodeNth]; exact size_eq t v h
    | succ i => simp only [hasTyNth] at h; simp only [sizeNth, encodeNth]; exact sizeNth_eq ts i v h
termination_by structural alts
end

theorem sizeAll_eq (e : Ty) (vs : List Val) (h : hasTyAll e vs = true) :
    sizeAll e vs = (encodeAll e vs).length :=
  sizeAll_eq_of e (size_eq e) vs h

section
variable {α β γ : Type}

def mapOk (o : Outcome (α × Bytes)) (g : α → β) : Outcome (β × Bytes) :=
  match o with
  | .ok (a, rest) => .ok (g a, rest)
  | .error e => .error e

/-- the shape of every composite node of `decode` and `decodeInto` -/
def seq2 (o : Outcome (α × Bytes)) (k : α → Bytes → Outcome (β × Bytes)) (g : α → β → γ) :
    Outcome (γ × Bytes) :=
  match o with
  | .error e => .error e
  | .ok (a, rest) => mapOk (k a rest) (g a)

theorem seq2_eq_ok {o : Outcome (α × Bytes)} {k : α → Bytes → Outcome (β × Bytes)}
    {g : α → β → γ} {c : γ} {rest' : Bytes} (h : seq2 o k g = .ok (c, rest')) :
    ∃ a rest b, o = .ok (a, rest) ∧ k a rest = .ok (b, rest') ∧ c = g a b := by
  match o with
  | .error _ => cases h
  | .ok (a, rest) =>
    change mapOk (k a rest) (g a) = _ at h
    cases hk : k a rest with
    | error _ => rw [hk] at h; cases h
    | ok p => rw [hk] at h; cases h; exact ⟨a, rest, p.1, rfl, hk, rfl⟩

theorem seq2_congr {o : Outcome (α × Bytes)} {k k' : α → Bytes → Outcome (β × Bytes)}
    {g : α → β → γ} (h : ∀ a rest, k a rest = k' a rest) : seq2 o k g = seq2 o k' g := by
  rw [show k = k' from funext fun a => funext (h a)]

/-- `D` reads exactly `enc` as `a` -/
structure Exact (D : Bytes → Outcome (α × Bytes)) (enc : Bytes) (a : α) : Prop where
  ok : ∀ rest, D (enc ++ rest) = .ok (a, rest)
  /-- part of the notion so that `Exact.seq` can push a truncation through a sequence -/
  short : ∀ n, n < enc.length → D (enc.take n) = .error .overflow

theorem Exact.unique {D : Bytes → Outcome (α × Bytes)} {e : Bytes} {a b : α} (ha : Exact D e a)
    (hb : Exact D e b) : a = b := by
  have h := (ha.ok []).symm.trans (hb.ok [])
  cases h; rfl

theorem Exact.readU {n v : Nat} (h : v < 256 ^ n) : Exact (readU n) (le n v) v :=
  ⟨fun rest => readU_le_append n v rest h,
   fun m hm => readU_short n _ (by rw [List.length_take]; rw [le_length] at hm ⊢; omega)⟩

theorem Exact.nil {D : Bytes → Outcome (α × Bytes)} {a : α} (hD : ∀ r, D r = .ok (a, r)) :
    Exact D [] a :=
  ⟨fun rest => hD rest, fun _ hn => absurd hn (Nat.not_lt_zero _)⟩

theorem Exact.congr {D D' : Bytes → Outcome (α × Bytes)} {e : Bytes} {a : α}
    (hD : ∀ r, D r = D' r) (h : Exact D' e a) : Exact D e a :=
  ⟨fun rest => by rw [hD, h.ok], fun n hn => by rw [hD, h.short n hn]⟩

theorem Exact.map {D₁ : Bytes → Outcome (α × Bytes)} {D : Bytes → Outcome (β × Bytes)}
    {g : α → β} {e : Bytes} {a : α} (hD : ∀ r, D r = mapOk (D₁ r) g) (h₁ : Exact D₁ e a) :
    Exact D e (g a) :=
  ⟨fun rest => by rw [hD, h₁.ok]; rfl, fun n hn => by rw [hD, h₁.short n hn]; rfl⟩

theorem Exact.seq {D₁ : Bytes → Outcome (α × Bytes)} {k : α → Bytes → Outcome (β × Bytes)}
    {D : Bytes → Outcome (γ × Bytes)} {g : α → β → γ} {e₁ e₂ : Bytes} {a : α} {b : β}
    (hD : ∀ r, D r = seq2 (D₁ r) k g) (h₁ : Exact D₁ e₁ a) (h₂ : Exact (k a) e₂ b) :
    Exact D (e₁ ++ e₂) (g a b) := by
  refine ⟨fun rest => by rw [hD, List.append_assoc, h₁.ok]; simp only [seq2, h₂.ok, mapOk], fun n hn => ?_⟩
  rw [List.length_append] at hn
  rw [hD, List.take_append]
  by_cases h : n < e₁.length
  · rw [Nat.sub_eq_zero_of_le (Nat.le_of_lt h), List.take_zero, List.append_nil, h₁.short n h]; rfl
  · rw [List.take_of_length_le (Nat.le_of_not_lt h), h₁.ok]
    simp only [seq2, h₂.short (n - e₁.length) (by omega), mapOk]

end

section
-- both sides are the same `casesOn` term; smart unfolding would keep the stuck `match`es folded
set_option smartUnfolding false
theorem decode_arith {c : UInt8} {sz : Nat} (hs : arithSize c = some sz) (r : Bytes) :
    decode (.arith c) r = mapOk (readU sz r) .num := by rw [decode, hs]; exact rfl
theorem decode_enum {u : UInt8} {sz : Nat} (hs : arithSize u = some sz) (nm : Bytes) (es : List (Bytes × Bytes))
    (r : Bytes) : decode (.enum u nm es) r = mapOk (readU sz r) .num := by rw [decode, hs]; exact rfl
theorem decode_seq (e : Ty) (r : Bytes) :
    decode (.seq e) r = seq2 (readU 4 r) (decodeN e) fun _ vs => .seq vs := by rw [decode]; exact rfl
theorem decode_var (alts : List Ty) (r : Bytes) :
    decode (.var alts) r = seq2 (readU 1 r) (decodeNth alts) .alt := by rw [decode]; exact rfl
theorem decode_tup (es : List Ty) (r : Bytes) : decode (.tup es) r = mapOk (decodeList es r) .tup := by
  rw [decode]; exact rfl
theorem decode_struct (n : Bytes) (fs : List (Bytes × Ty)) (r : Bytes) :
    decode (.struct n fs) r = mapOk (decodeFields fs r) .tup := by rw [decode]; exact rfl
theorem decodeN_succ (e : Ty) (n : Nat) (r : Bytes) :
    decodeN e (n + 1) r = seq2 (decode e r) (fun _ => decodeN e n) List.cons := by rw [decodeN]; exact rfl
theorem decodeList_cons (t : Ty) (ts : List Ty) (r : Bytes) :
    decodeList (t :: ts) r = seq2 (decode t r) (fun _ => decodeList ts) List.cons := by
  rw [decodeList]; exact rfl
theorem decodeFields_cons (n : Bytes) (t : Ty) (fs : List (Bytes × Ty)) (r : Bytes) :
    decodeFields ((n, t) :: fs) r = seq2 (decode t r) (fun _ => decodeFields fs) List.cons := by
  rw [decodeFields]; exact rfl
end

theorem decodeN_length {t : Ty} {n : Nat} {r : Bytes} {vs : List Val} {rest : Bytes}
    (h : decodeN t n r = .ok (vs, rest)) : vs.length = n := by
  induction n generalizing r vs with
  | zero => rw [decodeN] at h; cases h; rfl
  | succ n ih =>
    rw [decodeN_succ] at h
    obtain ⟨v, r', vs', -, h₂, rfl⟩ := seq2_eq_ok h
    rw [List.length_cons, ih h₂]

theorem decodeN_exact_of (e : Ty) (ih : ∀ v, hasTy e v = true → Exact (decode e) (encode e v) v)
    (vs : List Val) (h : hasTyAll e vs = true) : Exact (decodeN e vs.length) (encodeAll e vs) vs := by
  induction vs with
  | nil => rw [encodeAll]; exact .nil fun r => by rw [List.length_nil, decodeN]
  | cons v vs ihv =>
    simp only [hasTyAll, Bool.and_eq_true] at h
    rw [encodeAll]
    exact .seq (decodeN_succ e _) (ih v h.1) (ihv h.2)

mutual
theorem decode_exact (t : Ty) (v : Val) (h : hasTy t v = true) : Exact (decode t) (encode t v) v := by
  cases t with
  | arith c => cases v with
    | num raw =>
      obtain ⟨sz, hs, hr⟩ := hasTy_num h
      rw [encode, hs]
      exact .map (decode_arith hs) (.readU hr)
    | _ => simp [hasTy.eq_def] at h
  | seq e => cases v with
    | seq vs =>
      simp only [hasTy, Bool.and_eq_true, decide_eq_true_eq] at h
      rw [encode]
      exact .seq (decode_seq e) (.readU (by simpa using h.2))
        (decodeN_exact_of e (fun v h => decode_exact e v h) vs h.1)
    | _ => simp [hasTy.eq_def] at h
  | tup es => cases v with
    | tup vs =>
      simp only [hasTy] at h
      rw [encode]
      exact .map (decode_tup es) (decodeList_exact es vs h)
    | _ => simp [hasTy.eq_def] at h
  | var alts => cases v with
    | alt i v =>
      simp only [hasTy, Bool.and_eq_true, decide_eq_true_eq] at h
      rw [encode]
      exact .seq (decode_var alts) (.readU (by simpa using h.1)) (decodeNth_exact alts i v h.2)
    | _ => simp [hasTy.eq_def] at h
  | null => cases v with
    | nul => rw [encode]; exact .nil fun r => by rw [decode]
    | _ => simp [hasTy.eq_def] at h
  | enum u nm es => cases v with
    | num raw =>
      rw [hasTy_enum] at h
      obtain ⟨sz, hs, hr⟩ := hasTy_num h
      rw [encode, hs]
      exact .map (decode_enum hs nm es) (.readU hr)
    | _ => simp [hasTy.eq_def] at h
  | struct nm fs => cases v with
    | tup vs =>
      simp only [hasTy] at h
      rw [encode]
      exact .map (decode_struct nm fs) (decodeFields_exact fs vs h)
    | _ => simp [hasTy.eq_def] at h
termination_by structural t
theorem decodeList_exact (es : List Ty) (vs : List Val) (h : hasTyList es vs = true) :
    Exact (decodeList es) (encodeList es vs) vs := by
  cases es with
  | nil => cases hasTyList_nil h; simp only [encodeList]; exact .nil fun r => by rw [decodeList]
  | cons t ts =>
    obtain ⟨v, vs, rfl, h1, h2⟩ := hasTyList_cons h
    rw [encodeList]
    exact .seq (decodeList_cons t ts) (decode_exact t v h1) (decodeList_exact ts vs h2)
termination_by structural es
theorem decodeFields_exact (fs : List (Bytes × Ty)) (vs : List Val) (h : hasTyFields fs vs = true) :
    Exact (decodeFields fs) (encodeFields fs vs) vs := by
  cases fs with
  | nil => cases hasTyFields_nil h; simp only [encodeFields]; exact .nil fun r => by rw [decodeFields]
  | cons a fs =>
    obtain ⟨n, t⟩ := a
    obtain ⟨v, vs, rfl, h1, h2⟩ := hasTyFields_cons h
    rw [encodeFields]
    exact .seq (decodeFields_cons n t fs) (decode_exact t v h1) (decodeFields_exact fs vs h2)
termination_by structural fs
theorem decodeNth_exact (alts : List Ty) (i : Nat) (v : Val) (h : hasTyNth alts i v = true) :
    Exact (decodeNth alts i) (encodeNth alts i v) v := by
  cases alts with
  | nil => simp [hasTyNth.eq_def] at h
  | cons t ts => cases i with
    | zero =>
      simp only [hasTyNth] at h
      rw [encodeNth]
      exact .congr (fun r => by rw [decodeNth]) (decode_exact t v h)
    | succ i =>
      simp only [hasTyNth] at h
      rw [encodeNth]
      exact .congr (fun r => by rw [decodeNth]) (decodeNth_exact ts i v h)
termination_by structural alts
end

theorem decodeN_exact (e : Ty) (vs : List Val) (h : hasTyAll e vs = true) :
    Exact (decodeN e vs.length) (encodeAll e vs) vs :=
  decodeN_exact_of e (decode_exact e) vs h

theorem decodeN_encodeAll (e : Ty) (vs : List Val) (rest : Bytes) (h : hasTyAll e vs = true) :
    decodeN e vs.length (encodeAll e vs ++ rest) = .ok (vs, rest) :=
  (decodeN_exact e vs h).ok rest
theorem decodeList_encodeList (es : List Ty) (vs : List Val) (rest : Bytes) (h : hasTyList es vs = true) :
    decodeList es (encodeList es vs ++ rest) = .ok (vs, rest) :=
  (decodeList_exact es vs h).ok rest
theorem decodeFields_encodeFields (fs : List (Bytes × Ty)) (vs : List Val) (rest : Bytes)
    (h : hasTyFields fs vs = true) :
    decodeFields fs (encodeFields fs vs ++ rest) = .ok (vs, rest) :=
  (decodeFields_exact fs vs h).ok rest
theorem decodeNth_encodeNth (alts : List Ty) (i : Nat) (v : Val) (rest : Bytes)
    (h : hasTyNth alts i v = true) :
    decodeNth alts i (encodeNth alts i v ++ rest) = .ok (v, rest) :=
  (decodeNth_exact alts i v h).ok rest

theorem decodeN_trunc (e : Ty) (vs : List Val) (h : hasTyAll e vs = true) (n : Nat)
    (hn : n < (encodeAll e vs).length) :
    decodeN e vs.length ((encodeAll e vs).take n) = .error .overflow :=
  (decodeN_exact e vs h).short n hn
theorem decodeList_trunc (es : List Ty) (vs : List Val) (h : hasTyList es vs = true) (n : Nat)
    (hn : n < (encodeList es vs).length) :
    decodeList es ((encodeList es vs).take n) = .error .overflow :=
  (decodeList_exact es vs h).short n hn
theorem decodeFields_trunc (fs : List (Bytes × Ty)) (vs : List Val) (h : hasTyFields fs vs = true) (n : Nat)
    (hn : n < (encodeFields fs vs).length) :
    decodeFields fs ((encodeFields fs vs).take n) = .error .overflow :=
  (decodeFields_exact fs vs h).short n hn
theorem decodeNth_trunc (alts : List Ty) (i : Nat) (v : Val) (h : hasTyNth alts i v = true) (n : Nat)
    (hn : n < (encodeNth alts i v).length) :
    decodeNth alts i ((encodeNth alts i v).take n) = .error .overflow :=
  (decodeNth_exact alts i v h).short n hn

end BinlogVerif.Mser
