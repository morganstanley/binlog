import BinlogVerif.Mser.Spec
import BinlogVerif.Lemmas.TagDefs
import BinlogVerif.Lemmas.Mser
/-
  A singular type is encoded in 0 bytes, so it has exactly one value: `decode` gives every well-typed
  value back from its encoding.  Hence all values of a singular type demand the same callbacks and have
  the same rendering: visiting ONE element of a long sequence of singular elements (the `repeat` branch
  of `visit_sequence`) is right for every element.
-/
namespace BinlogVerif.Mser
open BinlogVerif BinlogVerif.Tag BinlogVerif.Visit

mutual
theorem encode_singular (t : Ty) (v : Val) (h : singularTy t = true) : encode t v = [] := by
  cases t with
  | tup es => cases v with
    | tup vs => simp only [singularTy] at h; simp only [encode]; exact encodeList_singular es vs h
    | _ => simp [encode.eq_def]
  | struct n fs => cases v with
    | tup vs => simp only [singularTy] at h; simp only [encode]; exact encodeFields_singular fs vs h
    | _ => simp [encode.eq_def]
  | _ => simp [singularTy] at h
theorem encodeList_singular (es : List Ty) (vs : List Val) (h : singularTys es = true) :
    encodeList es vs = [] := by
  cases es with
  | nil => simp [encodeList]
  | cons t ts => cases vs with
    | nil => simp [encodeList]
    | cons v vs =>
      simp only [singularTys, Bool.and_eq_true] at h
      simp only [encodeList, encode_singular t v h.1, encodeList_singular ts vs h.2, List.append_nil]
theorem encodeFields_singular (fs : List (Bytes × Ty)) (vs : List Val) (h : singularFields fs = true) :
    encodeFields fs vs = [] := by
  cases fs with
  | nil => simp [encodeFields]
  | cons a fs => cases vs with
    | nil => simp [encodeFields]
    | cons v vs =>
      obtain ⟨n, t⟩ := a
      simp only [singularFields, Bool.and_eq_true] at h
      simp only [encodeFields, encode_singular t v h.1, encodeFields_singular fs vs h.2, List.append_nil]
end

theorem encodeAll_singular (e : Ty) (vs : List Val) (h : singularTy e = true) : encodeAll e vs = [] := by
  induction vs with
  | nil => simp [encodeAll]
  | cons v vs ih => simp [encodeAll, encode_singular e v h, ih]

theorem singular_unique (t : Ty) (v v' : Val) (hs : singularTy t = true)
    (hv : hasTy t v = true) (hv' : hasTy t v' = true) : v = v' :=
  (encode_singular t v hs ▸ decode_exact t v hv).unique (encode_singular t v' hs ▸ decode_exact t v' hv')

theorem singularTys_unique (es : List Ty) (vs vs' : List Val) (hs : singularTys es = true)
    (hv : hasTyList es vs = true) (hv' : hasTyList es vs' = true) : vs = vs' :=
  (encodeList_singular es vs hs ▸ decodeList_exact es vs hv).unique
    (encodeList_singular es vs' hs ▸ decodeList_exact es vs' hv')

theorem singularFields_unique (fs : List (Bytes × Ty)) (vs vs' : List Val) (hs : singularFields fs = true)
    (hv : hasTyFields fs vs = true) (hv' : hasTyFields fs vs' = true) : vs = vs' :=
  (encodeFields_singular fs vs hs ▸ decodeFields_exact fs vs hv).unique
    (encodeFields_singular fs vs' hs ▸ decodeFields_exact fs vs' hv')

theorem eventsList_singular (es : List Ty) (vs vs' : List Val) (hs : singularTys es = true)
    (hv : hasTyList es vs = true) (hv' : hasTyList es vs' = true) : eventsList es vs = eventsList es vs' := by
  rw [singularTys_unique es vs vs' hs hv hv']

theorem eventsFields_singular (fs : List (Bytes × Ty)) (vs vs' : List Val) (hs : singularFields fs = true)
    (hv : hasTyFields fs vs = true) (hv' : hasTyFields fs vs' = true) :
    eventsFields fs vs = eventsFields fs vs' := by
  rw [singularFields_unique fs vs vs' hs hv hv']

theorem render_singular (t : Ty) (v v' : Val) (hs : singularTy t = true)
    (hv : hasTy t v = true) (hv' : hasTy t v' = true) : render t v = render t v' := by
  rw [singular_unique t v v' hs hv hv']

theorem renderList_singular (es : List Ty) (vs vs' : List Val) (hs : singularTys es = true)
    (hv : hasTyList es vs = true) (hv' : hasTyList es vs' = true) : renderList es vs = renderList es vs' := by
  rw [singularTys_unique es vs vs' hs hv hv']

theorem renderFields_singular (fs : List (Bytes × Ty)) (vs vs' : List Val) (hs : singularFields fs = true)
    (hv : hasTyFields fs vs = true) (hv' : hasTyFields fs vs' = true) :
    renderFields fs vs = renderFields fs vs' := by
  rw [singularFields_unique fs vs vs' hs hv hv']

theorem isCharTy_eq {e : Ty} (h : isCharTy e = true) : e = .arith 99 := by
  cases e <;> simp [isCharTy] at h
  subst h; rfl

theorem encodeAll_char (vs : List Val) (hv : hasTyAll (.arith 99) vs = true) :
    encodeAll (.arith 99) vs = charsOf vs := by
  induction vs with
  | nil => simp [encodeAll, charsOf]
  | cons v vs ih =>
    simp only [hasTyAll, Bool.and_eq_true] at hv
    rw [encodeAll, ih hv.2]
    cases v with
    | num raw =>
      have hs : arithSize 99 = some 1 := by decide
      have hr := hv.1
      simp only [hasTy, hs, decide_eq_true_eq] at hr
      have : raw % 256 = raw := Nat.mod_eq_of_lt (by simpa using hr)
      simp [encode, hs, le, charsOf, this]
    | _ => simp [hasTy.eq_def] at hv

end BinlogVerif.Mser
