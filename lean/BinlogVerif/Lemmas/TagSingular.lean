import BinlogVerif.Mser.Spec
import BinlogVerif.Lemmas.TagParse
/-
  `mserialize::singular`: on the tag of a `TyOk` type, within the recursion budget, it answers
  `singularTy t` (`singular_tag`).
-/
namespace BinlogVerif.Mser
open BinlogVerif BinlogVerif.Tag BinlogVerif.Visit

/-- list form of `EmptyStructsOk` -/
def ESNames (full : Bytes) (ns : List Bytes) : Prop :=
  ∀ n ∈ ns, resolveRecursiveTag full (cLBrace :: n) = []

theorem ESNames.append_iff {full : Bytes} {a b : List Bytes} :
    ESNames full (a ++ b) ↔ ESNames full a ∧ ESNames full b :=
  List.forall_mem_append

variable (full : Bytes)

theorem singularImpl_other {c : UInt8} (h1 : c ≠ cLParen) (h2 : c ≠ cLBrace) (m : Nat) (s : Bytes) :
    singularImpl full (m + 1) (c :: s) = .ok false := by
  rw [singularImpl, if_neg h1, if_neg h2]

mutual
theorem singular_tag (t : Ty) (m : Nat) (h : TyOkN t = true) (hd : depth t < m)
    (he : ESNames full (emptyStructNames t)) :
    singularImpl full m (tag t) = .ok (singularTy t) := by
  obtain ⟨m, rfl⟩ := Nat.exists_eq_add_one.2 (Nat.zero_lt_of_lt hd)
  cases t with
  | arith x =>
    have := (arith_charOk (tyOkN_arith h)).1
    rw [tag_arith, singularImpl_other full (ne_of_charOk this rfl) (ne_of_charOk this rfl)]; rfl
  | null => rw [tag_null, singularImpl_other full (by decide) (by decide)]; rfl
  | seq e => rw [tag_seq, singularImpl_other full (by decide) (by decide)]; rfl
  | var es => rw [tag_var, singularImpl_other full (by decide) (by decide)]; rfl
  | enum u n ens => rw [tag_enum, singularImpl_other full (by decide) (by decide)]; rfl
  | tup es =>
    simp only [depth] at hd
    simp only [emptyStructNames] at he
    rw [tag_tup]
    simp only [singularImpl, if_true, List.drop_succ_cons, List.drop_zero, removeSuffix_snoc, singularTy]
    exact singular_tupLoop es m _ (Nat.lt_succ_of_le (length_le_tagList es)) (tyOkN_tup h)
      (.inl (Nat.lt_of_succ_lt_succ hd)) he
  | struct n fs =>
    have h := tyOkN_struct h
    simp only [depth] at hd
    simp only [emptyStructNames, ESNames.append_iff] at he
    rw [tag_struct]
    have hne : ¬ cLBrace = cLParen := by decide
    simp only [singularImpl, hne, if_false, if_true, removeSuffix_cons_snoc, singularTy]
    rw [removePrefixBefore_intro n fs h.1]
    simp only [tagFields_isEmpty]
    cases fs with
    | nil => simp [he.1 n (by simp), tagPopLabel, findPos, singularFields]
    | cons a fs =>
      simp only [List.isEmpty_cons, Bool.false_eq_true, if_false]
      exact singular_fieldLoop (a :: fs) m _ (Nat.lt_succ_of_le (length_le_tagFields (a :: fs))) h.2
        (.inl (Nat.lt_of_succ_lt_succ hd)) he.2
theorem singular_tupLoop (es : List Ty) (m f : Nat) (hf : es.length < f)
    (h : ∀ t ∈ es, TyOkN t = true) (hd : depthList es < m ∨ es = [])
    (he : ESNames full (emptyStructNamesList es)) :
    singularImpl.tupLoop full m f (tagList es) = .ok (singularTys es) := by
  obtain ⟨f, rfl⟩ := Nat.exists_eq_add_one.2 (Nat.zero_lt_of_lt hf)
  cases es with
  | nil => simp [singularImpl.tupLoop, tagList_nil, tagPop_nil, singularTys]
  | cons t ts =>
    simp only [emptyStructNamesList, ESNames.append_iff] at he
    have hd' := depthList_cons_lt hd
    rw [tagList_cons, singularImpl.tupLoop, tagPop_tag t (h t (by simp))]
    simp only [List.isEmpty_iff, tag_ne_nil t, if_false, singular_tag t m (h t (by simp)) hd'.1 he.1, singularTys]
    cases singularTy t with
    | false => rfl
    | true => exact singular_tupLoop ts m f (Nat.lt_of_succ_lt_succ hf) (fun x hx => h x (by simp [hx])) hd'.2 he.2
theorem singular_fieldLoop (fs : List (Bytes × Ty)) (m f : Nat) (hf : fs.length < f)
    (h : TyOkFields fs = true) (hd : depthFields fs < m ∨ fs = [])
    (he : ESNames full (emptyStructNamesFields fs)) :
    singularImpl.fieldLoop full m f (tagFields fs) = .ok (singularFields fs) := by
  obtain ⟨f, rfl⟩ := Nat.exists_eq_add_one.2 (Nat.zero_lt_of_lt hf)
  cases fs with
  | nil => simp [singularImpl.fieldLoop, tagFields_nil, singularFields]
  | cons a fs =>
    obtain ⟨n, t⟩ := a
    simp only [emptyStructNamesFields, ESNames.append_iff] at he
    obtain ⟨hn, ht, hfs⟩ := tyOkFields_cons h
    have hd' := depthFields_cons_lt hd
    rw [tagFields_cons, singularImpl.fieldLoop]
    simp only [List.isEmpty_cons, Bool.false_eq_true, if_false, tagPopLabel_label n _ hn,
      tagPop_tag t ht, singular_tag t m ht hd'.1 he.1, singularFields]
    cases singularTy t with
    | false => rfl
    | true => exact singular_fieldLoop fs m f (Nat.lt_of_succ_lt_succ hf) hfs hd'.2 he.2
end

end BinlogVerif.Mser
