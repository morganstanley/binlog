import BinlogVerif.Lemmas.TagSingular
import BinlogVerif.Lemmas.VisitEnum
import BinlogVerif.Lemmas.SpecSingular
/-
  `visit_impl` on the tag of a type over the encoding of a value, for an ARBITRARY visitor: the tag parsing and the reads
  of size, discriminator and leaf are resolved, what is left is the sequence of visitor callbacks.
-/
namespace BinlogVerif.Mser
open BinlogVerif BinlogVerif.Tag BinlogVerif.Visit

/-- what one level of `visit_impl` with budget `m + 1` uses about the parts of a well-typed value, case by case
    (the bounds on count and discriminator as `256 ^ k`: the form `readU_le_append` asks for) -/
inductive Typed (full : Bytes) (m : Nat) : Ty → Val → Prop
  | arith {c : UInt8} {raw sz : Nat} : arithSize c = some sz → raw < 256 ^ sz → Typed full m (.arith c) (.num raw)
  | seq {e : Ty} {vs : List Val} : TyOk e = true → hasTyAll e vs = true → vs.length < 256 ^ 4 → depth e < m →
      ESNames full (emptyStructNames e) → Typed full m (.seq e) (.seq vs)
  | tup {es : List Ty} {vs : List Val} : TyOkList es = true → hasTyList es vs = true → depthList es < m →
      ESNames full (emptyStructNamesList es) → Typed full m (.tup es) (.tup vs)
  | var {alts : List Ty} {i : Nat} {v : Val} : (∀ t ∈ alts, TyOkN t = true) → i < 256 ^ 1 →
      hasTyNth alts i v = true → depthList alts < m → ESNames full (emptyStructNamesList alts) →
      Typed full m (.var alts) (.alt i v)
  | enum {u : UInt8} {n : Bytes} {ens : List (Bytes × Bytes)} {raw sz : Nat} : arithSize u = some sz →
      NameOk n = true → EnumsOk ens = true → u ≠ 121 → raw < 256 ^ sz → Typed full m (.enum u n ens) (.num raw)
  | struct {n : Bytes} {fs : List (Bytes × Ty)} {vs : List Val} : NameOk n = true → TyOkFields fs = true →
      hasTyFields fs vs = true → depthFields fs < m → ESNames full (emptyStructNamesFields fs) →
      (fs = [] → resolveRecursiveTag full (cLBrace :: n) = []) → Typed full m (.struct n fs) (.tup vs)

theorem Typed.of_hasTy {full : Bytes} {m : Nat} {t : Ty} {v : Val} (h : TyOk t = true) (hv : hasTy t v = true)
    (hd : depth t < m + 1) (he : ESNames full (emptyStructNames t)) : Typed full m t v := by
  unfold hasTy at hv
  -- one goal for each alternative of `hasTy`; its catch-all and `null` (not `TyOk`) go at once
  split at hv <;>
    simp only [TyOk, depth, emptyStructNames, Bool.and_eq_true, decide_eq_true_eq, Bool.false_eq_true,
      Nat.add_lt_add_iff_right, ESNames.append_iff, bne_iff_ne, ne_eq] at h hv hd he
  · split at hv
    · exact .arith ‹_› (of_decide_eq_true hv)
    · cases hv
  · exact .seq h hv.1 hv.2 hd he
  · exact .tup h hv hd he
  · exact .var (tyOkAlts_forall h.2) hv.1 hv.2 hd he
  · split at hv
    · exact .enum ‹_› h.1.1.2 h.1.2 h.2 (of_decide_eq_true hv)
    · cases hv
  · exact .struct h.1 h.2 hv hd he.2 fun e => he.1 _ (by simp [e])

variable {σ : Type} (v : Visitor σ) (full : Bytes) (m : Nat)

/-- a piece of `visit_impl`: from a visitor state and an input to the state and the input that is left.  The equations
    below say what `visit_impl` is on the tag of each type form in terms of `call`, `bracket` and `andThen`; their users
    unfold these together with the equations of their visitor's handler. -/
abbrev Step (σ : Type) := σ → Bytes → Outcome (σ × Bytes)

/-- `k` continues where `o` stopped -/
def andThen (o : Outcome (σ × Bytes)) (k : Step σ) : Outcome (σ × Bytes) :=
  match o with
  | .error err => .error err
  | .ok (st, input) => k st input

/-- a callback that Visit.hpp makes without the stream (so whether the handler asks to skip is not looked at), then `k` -/
def call (ev : Ev) (k : Step σ) : Step σ := fun st input =>
  match v.handle st ev input with
  | .error err => .error err
  | .ok (st, _, input) => k st input

def ret : Step σ := fun st input => .ok (st, input)

/-- one of the four `…Begin` callbacks that get the stream; unless it asks to skip: `body`, then the callback `e` -/
def bracket (b e : Ev) (body : Step σ) : Step σ := fun st input =>
  match v.handle st b input with
  | .error err => .error err
  | .ok (st, skip, input) => if skip then .ok (st, input) else andThen (body st input) (call v e ret)

/-- the loop part of `visit_sequence` -/
def seqBody (e : Ty) (size : Nat) : Step σ :=
  if size > repeatThreshold ∧ singularTy e = true then
    call v (.repeatBegin size (tag e)) fun st input =>
      andThen (visitImpl v full m (tag e) st input) (call v (.repeatEnd size (tag e)) ret)
  else fun st input => loopN (fun (p : σ × Bytes) => visitImpl v full m (tag e) p.1 p.2) size (st, input)

variable {v full m}

theorem visit_nil (st : σ) (input : Bytes) : visit v [] st input = .ok (st, input) := by
  rw [visit, visitImpl]

theorem visitImpl_arith {c : UInt8} {raw sz : Nat} (hs : arithSize c = some sz) (hr : raw < 256 ^ sz)
    (st : σ) (rest : Bytes) :
    visitImpl v full (m + 1) (tag (.arith c)) st (encode (.arith c) (.num raw) ++ rest) =
      call v (.arith c raw) ret st rest := by
  have hc (y : UInt8) (hy : charOk y = false) : ¬ c = y := ne_of_charOk (arith_charOk (by simp [hs])).1 hy
  rw [tag_arith, visitImpl, if_neg (hc cLBrack rfl), if_neg (hc cLParen rfl), if_neg (hc cLt rfl),
    if_neg (hc cLBrace rfl), if_neg (hc cSlash rfl)]
  simp only [visitArith, encode, hs, Option.getD_some, readU_le_append sz raw rest hr, call]
  cases v.handle st (.arith c raw) rest <;> rfl

theorem visitImpl_seq {e : Ty} {vs : List Val} (he : TyOk e = true) (hl : vs.length < 256 ^ 4) (hd : depth e < m)
    (hes : ESNames full (emptyStructNames e)) (st : σ) (rest : Bytes) :
    visitImpl v full (m + 1) (tag (.seq e)) st (encode (.seq e) (.seq vs) ++ rest) =
      bracket v (.seqBegin vs.length (tag e)) .seqEnd (seqBody v full m e vs.length) st (encodeAll e vs ++ rest) := by
  rw [tag_seq, visitImpl, if_pos rfl]
  simp only [List.drop_succ_cons, List.drop_zero, tagPop_tag_nil e (TyOkN.of_tyOk he), singular,
    singular_tag full e m (TyOkN.of_tyOk he) hd hes, seqBody, encode, List.append_assoc,
    readU_le_append 4 vs.length _ hl]
  by_cases hsz : vs.length > repeatThreshold
  · cases hs : singularTy e <;> simp only [hsz, true_and, if_true, Bool.false_eq_true, if_false] <;> rfl
  · simp only [hsz, false_and, if_false]; rfl

theorem visitImpl_tup (es : List Ty) (vs : List Val) (st : σ) (rest : Bytes) :
    visitImpl v full (m + 1) (tag (.tup es)) st (encode (.tup es) (.tup vs) ++ rest) =
      bracket v (.tupBegin (tagList es)) .tupEnd (visitImpl.tupLoop v full m ((tagList es).length + 1) (tagList es))
        st (encodeList es vs ++ rest) := by
  rw [tag_tup, visitImpl, if_neg (by decide), if_pos rfl]
  simp only [List.drop_succ_cons, List.drop_zero, removeSuffix_snoc, encode]
  rfl

theorem tupLoop_nil (f : Nat) (st : σ) (input : Bytes) :
    visitImpl.tupLoop v full m f (tagList []) st input = .ok (st, input) := by
  cases f <;> simp [visitImpl.tupLoop, tagList_nil, tagPop_nil]

theorem tupLoop_cons {f : Nat} (hf : 0 < f) (t : Ty) (ts : List Ty) (ht : TyOkN t = true) (st : σ) (input : Bytes) :
    visitImpl.tupLoop v full m f (tagList (t :: ts)) st input =
      andThen (visitImpl v full m (tag t) st input) (visitImpl.tupLoop v full m (f - 1) (tagList ts)) := by
  obtain ⟨f, rfl⟩ := Nat.exists_eq_add_one.2 hf
  rw [tagList_cons, visitImpl.tupLoop, tagPop_tag t ht]
  simp only [List.isEmpty_iff, tag_ne_nil, if_false]
  rfl

/-- the alternative a discriminator selects (`null` past the end, where `hasTyNth` is false anyway) -/
def nthTy : List Ty → Nat → Ty
  | [], _ => .null
  | t :: _, 0 => t
  | _ :: ts, i + 1 => nthTy ts i

/-- the tag `visit_variant` selects: as many `tag_pop`s as the discriminator says, then the first tag -/
theorem optTag_nth (l : List Nat) (alts : List Ty) (h : ∀ t ∈ alts, TyOkN t = true) (hi : l.length < alts.length) :
    (tagPop (l.foldl (fun t _ => (tagPop t).2) (tagList alts))).1 = tag (nthTy alts l.length) := by
  induction alts generalizing l with
  | nil => simp at hi
  | cons a alts ih =>
    have ha := tagPop_tag a (h a (by simp))
    cases l with
    | nil => rw [List.foldl_nil, tagList_cons, ha]; rfl
    | cons x l =>
      rw [List.foldl_cons, tagList_cons, ha]
      exact ih l (fun t ht => h t (by simp [ht])) (by simpa using hi)

theorem visitImpl_var {alts : List Ty} {i : Nat} {x : Val} (h : ∀ t ∈ alts, TyOkN t = true) (hi : i < 256 ^ 1)
    (hx : hasTyNth alts i x = true) (st : σ) (rest : Bytes) :
    visitImpl v full (m + 1) (tag (.var alts)) st (encode (.var alts) (.alt i x) ++ rest) =
      bracket v (.varBegin i (tag (nthTy alts i))) .varEnd
        (fun st input => if tag (nthTy alts i) = [cZero] then call v .null ret st input
          else visitImpl v full m (tag (nthTy alts i)) st input)
        st (encodeNth alts i x ++ rest) := by
  have hp := optTag_nth (List.range i) alts h (by rw [List.length_range]; exact hasTyNth_lt hx)
  rw [List.length_range] at hp
  rw [tag_var, visitImpl, if_neg (by decide), if_neg (by decide), if_pos rfl]
  simp only [List.drop_succ_cons, List.drop_zero, removeSuffix_snoc, encode,
    List.append_assoc, readU_le_append 1 i _ hi, hp]
  rfl

theorem visitImpl_struct {n : Bytes} {fs : List (Bytes × Ty)} (hn : NameOk n = true)
    (hes : fs = [] → resolveRecursiveTag full (cLBrace :: n) = []) (vs : List Val) (st : σ) (rest : Bytes) :
    visitImpl v full (m + 1) (tag (.struct n fs)) st (encode (.struct n fs) (.tup vs) ++ rest) =
      bracket v (.structBegin n (tagFields fs)) .structEnd
        (visitImpl.fieldLoop v full m ((tagFields fs).length + 1) (tagFields fs)) st (encodeFields fs vs ++ rest) := by
  have : (if (tagFields fs).isEmpty = true then resolveRecursiveTag full (cLBrace :: n) else tagFields fs)
      = tagFields fs := by
    cases fs with
    | nil => simp [tagFields_nil, hes rfl]
    | cons a fs => obtain ⟨x, t⟩ := a; simp [tagFields_cons]
  rw [tag_struct, visitImpl, if_neg (by decide), if_neg (by decide), if_neg (by decide), if_pos rfl]
  simp only [removeSuffix_cons_snoc,
    removePrefixBefore_intro n fs (Plain.of_nameOk hn), List.drop_succ_cons, List.drop_zero, this, encode]
  rfl

theorem fieldLoop_nil (f : Nat) (st : σ) (input : Bytes) :
    visitImpl.fieldLoop v full m f (tagFields []) st input = .ok (st, input) := by
  cases f <;> simp [visitImpl.fieldLoop, tagFields_nil]

theorem fieldLoop_cons {f : Nat} (hf : 0 < f) (n : Bytes) (t : Ty) (fs : List (Bytes × Ty)) (hn : NameOk n = true)
    (ht : TyOkN t = true) (st : σ) (input : Bytes) :
    visitImpl.fieldLoop v full m f (tagFields ((n, t) :: fs)) st input =
      call v (.fieldBegin n (tag t)) (fun st input => andThen (visitImpl v full m (tag t) st input)
        (call v .fieldEnd (visitImpl.fieldLoop v full m (f - 1) (tagFields fs)))) st input := by
  obtain ⟨f, rfl⟩ := Nat.exists_eq_add_one.2 hf
  rw [tagFields_cons, visitImpl.fieldLoop]
  simp only [List.isEmpty_cons, Bool.false_eq_true, if_false, tagPopLabel_label n _ (Plain.of_nameOk hn),
    tagPop_tag t ht]
  rfl

theorem visitImpl_enum {u : UInt8} {n : Bytes} {ens : List (Bytes × Bytes)} {raw sz : Nat}
    (hu : arithSize u = some sz) (hn : NameOk n = true) (hens : EnumsOk ens = true) (hnb : u ≠ 121)
    (hr : raw < 256 ^ sz) (st : σ) (rest : Bytes) :
    visitImpl v full (m + 1) (tag (.enum u n ens)) st (encode (.enum u n ens) (.num raw) ++ rest) =
      call v (.enum n (lookupEnumerator (integerToHex u raw) ens) u (integerToHex u raw)) ret st rest := by
  have hq : cQuote ∉ n := (Plain.of_nameOk hn).not_mem_special rfl
  have hp : removePrefixBefore (n ++ cQuote :: tagEnums ens) cQuote = (n, cQuote :: tagEnums ens) := by
    simp [removePrefixBefore, findPos_append_cons_self hq]
  rw [tag_enum, visitImpl, if_neg (by decide), if_neg (by decide), if_neg (by decide), if_neg (by decide), if_pos rfl]
  simp only [List.drop_succ_cons, List.drop_zero, removeSuffix_snoc, hu, encode,
    Option.getD_some, readU_le_append sz raw rest hr, hp]
  rw [← enum_lookup _ (fun x hx => hexChar_charOk (integerToHex_hex u raw hnb x hx)) ens hens]
  rfl

end BinlogVerif.Mser
