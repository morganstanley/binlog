import BinlogVerif.Mser.Dest
import BinlogVerif.Lemmas.Mser
namespace BinlogVerif.Mser
open BinlogVerif BinlogVerif.Visit

mutual
def noFixed : Dst → Bool
  | .arith _ => true
  | .seq fixed e => fixed.isNone && noFixed e
  | .tup es => noFixedList es
  | .var alts => noFixedList alts
  | .null => true
  | .enum _ _ _ => true
  | .struct _ fs => noFixedFields fs
def noFixedList : List Dst → Bool
  | [] => true
  | d :: ds => noFixed d && noFixedList ds
def noFixedFields : List (Bytes × Dst) → Bool
  | [] => true
  | (_, d) :: fs => noFixed d && noFixedFields fs
end

/-- the test that `fits` and `decodeInto` write as an inline `match` on `fixed`, under one name so that
    both can be rewritten to it -/
def sizeOk (fixed : Option Nat) (n : Nat) : Bool :=
  match fixed with
  | some m => decide (n = m)
  | none => true

theorem fits_seq (fixed : Option Nat) (e : Dst) (vs : List Val) :
    fits (.seq fixed e) (.seq vs) = (sizeOk fixed vs.length && fitsAll e vs) := by
  cases fixed <;> simp only [fits, sizeOk]

section
set_option smartUnfolding false  -- as for the equations of `decode` in Lemmas/Mser.lean
theorem decodeInto_arith (c : UInt8) (r : Bytes) : decodeInto (.arith c) r = decode (.arith c) r := by
  rw [decodeInto, decode]; exact rfl
theorem decodeInto_enum (u : UInt8) (nm : Bytes) (es : List (Bytes × Bytes)) (r : Bytes) :
    decodeInto (.enum u nm es) r = decode (.enum u nm es) r := by rw [decodeInto, decode]; exact rfl
theorem decodeInto_seq (fixed : Option Nat) (e : Dst) (r : Bytes) :
    decodeInto (.seq fixed e) r =
      seq2 (readU 4 r) (fun n rest => if sizeOk fixed n then decodeIntoN e n rest else .error .sizeMismatch)
        fun _ vs => .seq vs := by
  rw [decodeInto]
  rcases readU 4 r with _ | ⟨n, rest⟩
  · rfl
  · show (if sizeOk fixed n then _ else _) = mapOk (if sizeOk fixed n then _ else _) _
    cases sizeOk fixed n <;> exact rfl
theorem decodeInto_var (alts : List Dst) (r : Bytes) :
    decodeInto (.var alts) r = seq2 (readU 1 r) (decodeIntoNth alts) .alt := by rw [decodeInto]; exact rfl
theorem decodeInto_tup (es : List Dst) (r : Bytes) :
    decodeInto (.tup es) r = mapOk (decodeIntoList es r) .tup := by rw [decodeInto]; exact rfl
theorem decodeInto_struct (n : Bytes) (fs : List (Bytes × Dst)) (r : Bytes) :
    decodeInto (.struct n fs) r = mapOk (decodeIntoFields fs r) .tup := by rw [decodeInto]; exact rfl
theorem decodeIntoN_succ (e : Dst) (n : Nat) (r : Bytes) :
    decodeIntoN e (n + 1) r = seq2 (decodeInto e r) (fun _ => decodeIntoN e n) List.cons := by
  rw [decodeIntoN]; exact rfl
theorem decodeIntoList_cons (d : Dst) (ds : List Dst) (r : Bytes) :
    decodeIntoList (d :: ds) r = seq2 (decodeInto d r) (fun _ => decodeIntoList ds) List.cons := by
  rw [decodeIntoList]; exact rfl
theorem decodeIntoFields_cons (n : Bytes) (d : Dst) (fs : List (Bytes × Dst)) (r : Bytes) :
    decodeIntoFields ((n, d) :: fs) r = seq2 (decodeInto d r) (fun _ => decodeIntoFields fs) List.cons := by
  rw [decodeIntoFields]; exact rfl
end

/-- the two exceptions a truncated encoding can end in -/
def TruncErr {α : Type} (o : Outcome α) : Prop :=
  ∃ e, o = .error e ∧ (e = .overflow ∨ e = .sizeMismatch)

theorem TruncErr.overflow {α : Type} : TruncErr (.error .overflow : Outcome α) := ⟨_, rfl, .inl rfl⟩
theorem TruncErr.sizeMismatch {α : Type} : TruncErr (.error .sizeMismatch : Outcome α) := ⟨_, rfl, .inr rfl⟩

section
variable {α β γ : Type}

/-- `o'` is `o` with size checks put in front.  `pass`: none of them fails, the two end alike, and what they
    return fits.  `abort`: one fails, which takes a fixed-size node (`P` says there is none); `o'` is the size
    mismatch and what `o` returns does not fit, if `o` gets that far: the check can fire before the bytes run
    out, so `o` may as well fail in its own way. -/
inductive Checked (P : Prop) (fit : α → Bool) (o : Outcome (α × Bytes)) : Outcome (α × Bytes) → Prop
  | pass (h : ∀ a rest, o = .ok (a, rest) → fit a = true) : Checked P fit o o
  | abort (hn : ¬P) (h : ∀ a rest, o = .ok (a, rest) → fit a = false) : Checked P fit o (.error .sizeMismatch)

variable {P P' : Prop} {fit : α → Bool} {o o' : Outcome (α × Bytes)}

theorem Checked.eq (h : Checked P fit o o') (hp : P) : o' = o :=
  match h with
  | .pass _ => rfl
  | .abort hn _ => absurd hp hn

theorem Checked.eq_ok {a : α} {rest : Bytes} (h : Checked P fit o o') (ho : o = .ok (a, rest))
    (hf : fit a = true) : o' = .ok (a, rest) :=
  match h with
  | .pass _ => ho
  | .abort _ h => by rw [h a rest ho] at hf; cases hf

theorem Checked.eq_mismatch {a : α} {rest : Bytes} (h : Checked P fit o o') (ho : o = .ok (a, rest))
    (hf : fit a = false) : o' = .error .sizeMismatch :=
  match h with
  | .pass h => by rw [h a rest ho] at hf; cases hf
  | .abort _ _ => rfl

theorem Checked.truncErr (h : Checked P fit o o') (ho : o = .error .overflow) : TruncErr o' :=
  match h with
  | .pass _ => ho ▸ .overflow
  | .abort _ _ => .sizeMismatch

theorem Checked.mono (h : Checked P fit o o') (hp : P' → P) : Checked P' fit o o' :=
  match h with
  | .pass h => .pass h
  | .abort hn h => .abort (mt hp hn) h

theorem Checked.map {fit' : β → Bool} {g : α → β} (h : Checked P fit o o')
    (hfit : ∀ a, fit' (g a) = fit a) : Checked P fit' (mapOk o g) (mapOk o' g) := by
  have hg {x : Bool} (hx : ∀ a rest, o = .ok (a, rest) → fit a = x) (b : β) (rest : Bytes)
      (hb : mapOk o g = .ok (b, rest)) : fit' b = x := by
    match o with
    | .ok (a, _) => cases hb; rw [hfit]; exact hx a _ rfl
    | .error _ => cases hb
  cases h with
  | pass h => exact .pass (hg h)
  | abort hn h => exact .abort hn (hg h)

theorem Checked.seq {fit₁ : α → Bool} {fit₂ : α → β → Bool} {fit : γ → Bool} {g : α → β → γ}
    {k k' : α → Bytes → Outcome (β × Bytes)} (h₁ : Checked P fit₁ o o')
    (h₂ : ∀ a rest, Checked P (fit₂ a) (k a rest) (k' a rest))
    (hfit : ∀ a b, fit (g a b) = (fit₁ a && fit₂ a b)) : Checked P fit (seq2 o k g) (seq2 o' k' g) := by
  cases h₁ with
  | abort hn h =>
    -- the first value does not fit: whatever `k` makes of the rest is cut off
    exact .abort hn fun c rest' hc => by
      obtain ⟨a, rest, b, ho, -, rfl⟩ := seq2_eq_ok hc
      rw [hfit, h a rest ho, Bool.false_and]
  | pass h =>
    match o, h with
    | .error _, _ => exact .pass nofun
    | .ok (a, rest), h => exact (h₂ a rest).map fun b => by rw [hfit, h a rest rfl, Bool.true_and]

/-- a test `b` made before `o'` runs that agrees with `c` on every value `o` can return -/
theorem Checked.guard {c : α → Bool} {b : Bool} (h : Checked P fit o o')
    (hc : ∀ a rest, o = .ok (a, rest) → c a = b) (hb : P → b = true) :
    Checked P (fun a => c a && fit a) o (if b then o' else .error .sizeMismatch) := by
  cases b with
  | false => exact .abort (fun p => nomatch hb p) fun a rest ho => by rw [hc a rest ho, Bool.false_and]
  | true =>
    cases h with
    | pass h => exact .pass fun a rest ho => by rw [hc a rest ho, h a rest ho]; rfl
    | abort hn h => exact .abort hn fun a rest ho => by rw [h a rest ho, Bool.and_false]

end

theorem decodeIntoN_checked_of {P : Prop} (e : Dst)
    (ih : ∀ r, Checked P (fits e) (decode e.ty r) (decodeInto e r)) :
    ∀ (n : Nat) (r : Bytes), Checked P (fitsAll e) (decodeN e.ty n r) (decodeIntoN e n r)
  | 0, r => by rw [decodeN, decodeIntoN]; exact .pass fun _ _ h => by cases h; rw [fitsAll]
  | n + 1, r => by
    rw [decodeN_succ, decodeIntoN_succ]
    exact .seq (ih r) (fun _ rest => decodeIntoN_checked_of e ih n rest) fun v vs => by rw [fitsAll]

mutual
theorem decodeInto_checked (d : Dst) (r : Bytes) :
    Checked (noFixed d = true) (fits d) (decode d.ty r) (decodeInto d r) := by
  cases d with
  | arith c => rw [Dst.ty, decodeInto_arith]; exact .pass fun _ _ _ => by simp only [fits]
  | seq fixed e =>
    rw [Dst.ty, decode_seq, decodeInto_seq, noFixed, Bool.and_eq_true]
    -- the count tested before any element is read is the length of what `decodeN` returns
    exact .seq (fit₁ := fun _ => true) (.pass fun _ _ _ => rfl)
      (fun n rest =>
        .guard (decodeIntoN_checked_of e (fun r => (decodeInto_checked e r).mono And.right) n rest)
          (fun vs rest' h => by rw [decodeN_length h])
          fun h => by rw [Option.isNone_iff_eq_none.1 h.1]; rfl)
      fun _ vs => fits_seq fixed e vs
  | tup es =>
    rw [Dst.ty, decode_tup, decodeInto_tup, noFixed]
    exact (decodeIntoList_checked es r).map fun vs => by rw [fits]
  | var alts =>
    rw [Dst.ty, decode_var, decodeInto_var, noFixed]
    exact .seq (fit₁ := fun _ => true) (.pass fun _ _ _ => rfl) (fun i rest => decodeIntoNth_checked alts i rest)
      fun i v => by rw [fits]; rfl
  | null => rw [Dst.ty, decodeInto, decode]; exact .pass fun _ _ _ => by simp only [fits]
  | enum u nm es => rw [Dst.ty, decodeInto_enum]; exact .pass fun _ _ _ => by simp only [fits]
  | struct nm fs =>
    rw [Dst.ty, decode_struct, decodeInto_struct, noFixed]
    exact (decodeIntoFields_checked fs r).map fun vs => by rw [fits]
termination_by structural d
theorem decodeIntoList_checked (ds : List Dst) (r : Bytes) :
    Checked (noFixedList ds = true) (fitsList ds) (decodeList (Dst.tys ds) r) (decodeIntoList ds r) := by
  cases ds with
  | nil => rw [Dst.tys, decodeList, decodeIntoList]; exact .pass fun _ _ _ => by simp only [fitsList]
  | cons d ds =>
    rw [Dst.tys, decodeList_cons, decodeIntoList_cons, noFixedList, Bool.and_eq_true]
    exact .seq ((decodeInto_checked d r).mono And.left)
      (fun _ rest => (decodeIntoList_checked ds rest).mono And.right) fun v vs => by rw [fitsList]
termination_by structural ds
theorem decodeIntoFields_checked (fs : List (Bytes × Dst)) (r : Bytes) :
    Checked (noFixedFields fs = true) (fitsFields fs) (decodeFields (Dst.tyFields fs) r)
      (decodeIntoFields fs r) := by
  cases fs with
  | nil => rw [Dst.tyFields, decodeFields, decodeIntoFields]; exact .pass fun _ _ _ => by simp only [fitsFields]
  | cons a fs =>
    obtain ⟨n, d⟩ := a
    rw [Dst.tyFields, decodeFields_cons, decodeIntoFields_cons, noFixedFields, Bool.and_eq_true]
    exact .seq ((decodeInto_checked d r).mono And.left)
      (fun _ rest => (decodeIntoFields_checked fs rest).mono And.right) fun v vs => by rw [fitsFields]
termination_by structural fs
theorem decodeIntoNth_checked (alts : List Dst) (i : Nat) (r : Bytes) :
    Checked (noFixedList alts = true) (fitsNth alts i) (decodeNth (Dst.tys alts) i r)
      (decodeIntoNth alts i r) := by
  cases alts with
  | nil => rw [Dst.tys, decodeNth, decodeIntoNth]; exact .pass nofun
  | cons d ds =>
    rw [Dst.tys, noFixedList, Bool.and_eq_true]
    cases i with
    | zero =>
      rw [decodeNth, decodeIntoNth, show fitsNth (d :: ds) 0 = fits d from funext fun _ => by rw [fitsNth]]
      exact (decodeInto_checked d r).mono And.left
    | succ i =>
      rw [decodeNth, decodeIntoNth,
        show fitsNth (d :: ds) (i + 1) = fitsNth ds i from funext fun _ => by rw [fitsNth]]
      exact (decodeIntoNth_checked ds i r).mono And.right
termination_by structural alts
end

theorem decodeIntoN_checked (e : Dst) (n : Nat) (r : Bytes) :
    Checked (noFixed e = true) (fitsAll e) (decodeN e.ty n r) (decodeIntoN e n r) :=
  decodeIntoN_checked_of e (decodeInto_checked e) n r

theorem decodeIntoN_encodeAll (e : Dst) (vs : List Val) (rest : Bytes) (h : hasTyAll e.ty vs = true)
    (hf : fitsAll e vs = true) :
    decodeIntoN e vs.length (encodeAll e.ty vs ++ rest) = .ok (vs, rest) :=
  (decodeIntoN_checked e _ _).eq_ok (decodeN_encodeAll e.ty vs rest h) hf
theorem decodeIntoList_encodeList (ds : List Dst) (vs : List Val) (rest : Bytes)
    (h : hasTyList (Dst.tys ds) vs = true) (hf : fitsList ds vs = true) :
    decodeIntoList ds (encodeList (Dst.tys ds) vs ++ rest) = .ok (vs, rest) :=
  (decodeIntoList_checked ds _).eq_ok (decodeList_encodeList _ vs rest h) hf
theorem decodeIntoFields_encodeFields (fs : List (Bytes × Dst)) (vs : List Val) (rest : Bytes)
    (h : hasTyFields (Dst.tyFields fs) vs = true) (hf : fitsFields fs vs = true) :
    decodeIntoFields fs (encodeFields (Dst.tyFields fs) vs ++ rest) = .ok (vs, rest) :=
  (decodeIntoFields_checked fs _).eq_ok (decodeFields_encodeFields _ vs rest h) hf
theorem decodeIntoNth_encodeNth (alts : List Dst) (i : Nat) (v : Val) (rest : Bytes)
    (h : hasTyNth (Dst.tys alts) i v = true) (hf : fitsNth alts i v = true) :
    decodeIntoNth alts i (encodeNth (Dst.tys alts) i v ++ rest) = .ok (v, rest) :=
  (decodeIntoNth_checked alts i _).eq_ok (decodeNth_encodeNth _ i v rest h) hf

theorem decodeIntoN_mismatch (e : Dst) (vs : List Val) (rest : Bytes) (h : hasTyAll e.ty vs = true)
    (hf : fitsAll e vs = false) :
    decodeIntoN e vs.length (encodeAll e.ty vs ++ rest) = .error .sizeMismatch :=
  (decodeIntoN_checked e _ _).eq_mismatch (decodeN_encodeAll e.ty vs rest h) hf
theorem decodeIntoList_mismatch (ds : List Dst) (vs : List Val) (rest : Bytes)
    (h : hasTyList (Dst.tys ds) vs = true) (hf : fitsList ds vs = false) :
    decodeIntoList ds (encodeList (Dst.tys ds) vs ++ rest) = .error .sizeMismatch :=
  (decodeIntoList_checked ds _).eq_mismatch (decodeList_encodeList _ vs rest h) hf
theorem decodeIntoFields_mismatch (fs : List (Bytes × Dst)) (vs : List Val) (rest : Bytes)
    (h : hasTyFields (Dst.tyFields fs) vs = true) (hf : fitsFields fs vs = false) :
    decodeIntoFields fs (encodeFields (Dst.tyFields fs) vs ++ rest) = .error .sizeMismatch :=
  (decodeIntoFields_checked fs _).eq_mismatch (decodeFields_encodeFields _ vs rest h) hf
theorem decodeIntoNth_mismatch (alts : List Dst) (i : Nat) (v : Val) (rest : Bytes)
    (h : hasTyNth (Dst.tys alts) i v = true) (hf : fitsNth alts i v = false) :
    decodeIntoNth alts i (encodeNth (Dst.tys alts) i v ++ rest) = .error .sizeMismatch :=
  (decodeIntoNth_checked alts i _).eq_mismatch (decodeNth_encodeNth _ i v rest h) hf

theorem decodeInto_eq_decode (d : Dst) (hnf : noFixed d = true) (r : Bytes) :
    decodeInto d r = decode d.ty r :=
  (decodeInto_checked d r).eq hnf
theorem decodeIntoList_eq_decode (ds : List Dst) (hnf : noFixedList ds = true) (r : Bytes) :
    decodeIntoList ds r = decodeList (Dst.tys ds) r :=
  (decodeIntoList_checked ds r).eq hnf
theorem decodeIntoFields_eq_decode (fs : List (Bytes × Dst)) (hnf : noFixedFields fs = true) (r : Bytes) :
    decodeIntoFields fs r = decodeFields (Dst.tyFields fs) r :=
  (decodeIntoFields_checked fs r).eq hnf
theorem decodeIntoNth_eq_decode (alts : List Dst) (hnf : noFixedList alts = true) (i : Nat) (r : Bytes) :
    decodeIntoNth alts i r = decodeNth (Dst.tys alts) i r :=
  (decodeIntoNth_checked alts i r).eq hnf

theorem decodeIntoN_trunc (e : Dst) (vs : List Val) (h : hasTyAll e.ty vs = true) (n : Nat)
    (hn : n < (encodeAll e.ty vs).length) :
    TruncErr (decodeIntoN e vs.length ((encodeAll e.ty vs).take n)) :=
  (decodeIntoN_checked e _ _).truncErr (decodeN_trunc e.ty vs h n hn)
theorem decodeIntoList_trunc (ds : List Dst) (vs : List Val) (h : hasTyList (Dst.tys ds) vs = true) (n : Nat)
    (hn : n < (encodeList (Dst.tys ds) vs).length) :
    TruncErr (decodeIntoList ds ((encodeList (Dst.tys ds) vs).take n)) :=
  (decodeIntoList_checked ds _).truncErr (decodeList_trunc _ vs h n hn)
theorem decodeIntoFields_trunc (fs : List (Bytes × Dst)) (vs : List Val)
    (h : hasTyFields (Dst.tyFields fs) vs = true) (n : Nat)
    (hn : n < (encodeFields (Dst.tyFields fs) vs).length) :
    TruncErr (decodeIntoFields fs ((encodeFields (Dst.tyFields fs) vs).take n)) :=
  (decodeIntoFields_checked fs _).truncErr (decodeFields_trunc _ vs h n hn)
theorem decodeIntoNth_trunc (alts : List Dst) (i : Nat) (v : Val) (h : hasTyNth (Dst.tys alts) i v = true)
    (n : Nat) (hn : n < (encodeNth (Dst.tys alts) i v).length) :
    TruncErr (decodeIntoNth alts i ((encodeNth (Dst.tys alts) i v).take n)) :=
  (decodeIntoNth_checked alts i _).truncErr (decodeNth_trunc _ i v h n hn)

end BinlogVerif.Mser
