import BinlogVerif.Lemmas.NoTrapBase
import BinlogVerif.Mser.Visit
/- `singular` and `visit_impl` never trap, for ARBITRARY tags and input bytes, provided the visitor's callbacks do not. -/
namespace BinlogVerif

open BinlogVerif.Tag BinlogVerif.Visit

/- By induction on the recursion budget; under the hypothesis for budget `m`, each of the two loops by induction on
   its own fuel. -/
theorem singularImpl_noTrap (full : Bytes) (m : Nat) (tag : Bytes) : NoTrap (singularImpl full m tag) := by
  induction m generalizing tag with
  | zero => unfold singularImpl; exact .recursion
  | succ m ih =>
    have tup (f t) : NoTrap (singularImpl.tupLoop full m f t) := by
      induction f generalizing t with
      | zero => unfold singularImpl.tupLoop; exact .ok
      | succ f ihf => unfold singularImpl.tupLoop; no_trap_steps [ihf _, ih _]
    have fld (f t) : NoTrap (singularImpl.fieldLoop full m f t) := by
      induction f generalizing t with
      | zero => unfold singularImpl.fieldLoop; exact .ok
      | succ f ihf => unfold singularImpl.fieldLoop; no_trap_steps [ihf _, ih _]
    unfold singularImpl
    no_trap_steps [tup _ _, fld _ _]

theorem singular_noTrap {full tag : Bytes} {m : Nat} : NoTrap (singular full tag m) :=
  singularImpl_noTrap full m tag

/-- a visitor none of whose callbacks traps -/
def Visit.Visitor.NoTrap {σ : Type} (v : Visitor σ) : Prop :=
  ∀ st ev input, BinlogVerif.NoTrap (v.handle st ev input)

theorem recorder_noTrap : (recorder).NoTrap := fun _ _ _ => NoTrap.ok

theorem loopN_noTrap {α : Type} {f : α → Outcome α} (hf : ∀ a, NoTrap (f a)) (n : Nat) (a : α) :
    NoTrap (loopN f n a) := by
  fun_induction loopN f n a <;> no_trap_steps [hf _]

section
variable {σ : Type} (v : Visitor σ) (full : Bytes) (hv : v.NoTrap)
include hv

/-- `hv st ev input` as a fact for `no_trap_steps`: `Visitor.NoTrap` is a plain `def`, which the macro's
    `with_reducible exact` does not unfold to apply `hv` -/
theorem handle_noTrap {st : σ} {ev : Ev} {input : Bytes} : NoTrap (v.handle st ev input) :=
  hv st ev input

theorem visitArith_noTrap {c : UInt8} {st : σ} {input : Bytes} : NoTrap (visitArith v c st input) := by
  unfold visitArith
  no_trap_steps [handle_noTrap v hv, readU_noTrap]

theorem visitImpl_noTrap (m : Nat) (tag : Bytes) (st : σ) (input : Bytes) :
    NoTrap (visitImpl v full m tag st input) := by
  induction m generalizing tag st input with
  | zero => unfold visitImpl; exact .recursion
  | succ m ih =>
    have tup (f t st input) : NoTrap (visitImpl.tupLoop v full m f t st input) := by
      induction f generalizing t st input with
      | zero => unfold visitImpl.tupLoop; exact .ok
      | succ f ihf => unfold visitImpl.tupLoop; no_trap_steps [ihf _ _ _, ih _ _ _]
    have fld (f t st input) : NoTrap (visitImpl.fieldLoop v full m f t st input) := by
      induction f generalizing t st input with
      | zero => unfold visitImpl.fieldLoop; exact .ok
      | succ f ihf => unfold visitImpl.fieldLoop; no_trap_steps [ihf _ _ _, ih _ _ _, handle_noTrap v hv]
    unfold visitImpl
    dsimp only
    no_trap_steps [handle_noTrap v hv, readU_noTrap, ih _ _ _, singular_noTrap, loopN_noTrap (fun _ => ih _ _ _) _ _,
      tup _ _ _ _, fld _ _ _ _, visitArith_noTrap v hv]

theorem visit_noTrap {tag : Bytes} {st : σ} {input : Bytes} : NoTrap (visit v tag st input) :=
  visitImpl_noTrap v tag hv 2048 tag st input

end

end BinlogVerif
