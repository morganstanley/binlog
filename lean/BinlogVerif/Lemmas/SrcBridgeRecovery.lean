import BinlogVerif.Generated.SrcRecovery
import BinlogVerif.Lemmas.SrcBridgeTactic
/- Bridge lemmas (see SrcBridgeTactic.lean). -/
namespace BinlogVerif.SrcBridge
open BinlogVerif BinlogVerif.CSem BinlogVerif.Generated

/-- `checkQueueInvariants`: exactly the model's rejection test of `Recovery.readData` -/
theorem checkQueueInvariants_bridge (w e rd cap : Nat) :
    (Src.checkQueueInvariants w e rd cap).ret = decide (¬ (w > cap ∨ e > cap ∨ rd > cap)) := by
  bridge_unfold [Src.checkQueueInvariants]
  bridge_arith []


end BinlogVerif.SrcBridge
