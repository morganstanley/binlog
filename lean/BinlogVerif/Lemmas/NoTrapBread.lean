import BinlogVerif.Lemmas.NoTrapVisit
import BinlogVerif.Lemmas.TimePrint
import BinlogVerif.Reader.Bread
/-
  C09 support: the pretty printer (`ToStringVisitor`, `printStruct`, `printEvent*`) with the time
  model plugged in and `bread`'s print loop never trap.
-/
namespace BinlogVerif

open BinlogVerif.Tag BinlogVerif.Visit

structure Pretty.TimePrinter.NoTrap (tp : Pretty.TimePrinter) : Prop where
  timePoint : ∀ ns, BinlogVerif.NoTrap (tp.timePoint ns)
  localTime : ∀ c, BinlogVerif.NoTrap (tp.localTime c)
  utcTime : ∀ c, BinlogVerif.NoTrap (tp.utcTime c)

theorem printTime_brokenDown_noTrap {dateFmt : Bytes} {ns tz : Int} {name : Bytes} :
    NoTrap (Time.printTime dateFmt (Time.brokenDown ns) tz name) := by
  obtain ⟨a, h⟩ := Time.printTime_total _ (Time.brokenDown_twoDigit ns) tz name dateFmt
  rw [h]
  exact .ok

/-- each of the three printers is `printTime` on a broken-down time, or a fixed text -/
theorem timePrinter_noTrap (fmt dateFmt : Bytes) (cs : ClockSync) :
    (Bread.timePrinter fmt dateFmt cs).NoTrap := by
  refine ⟨fun ns => ?_, fun c => ?_, fun c => ?_⟩ <;>
    dsimp only [Bread.timePrinter, Time.printLocal, Time.printUTC] <;>
    no_trap_steps [printTime_brokenDown_noTrap]

theorem printStruct_noTrap (tp : Pretty.TimePrinter) (htp : tp.NoTrap) {name tag input : Bytes} :
    NoTrap (Pretty.printStruct tp name tag input) := by
  unfold Pretty.printStruct
  dsimp only
  no_trap_steps [readU_noTrap, htp.timePoint _, takeN_noTrap]
  -- left: `NoTrap r` where `dur = some r`, a duration, whose special rendering `r` is one checked read
  rename_i heq
  split at heq
  · cases heq
  · split at heq
    · cases heq
      no_trap_steps [readU_noTrap]
    · split at heq
      · cases heq
        no_trap_steps [readU_noTrap]
      · cases heq

theorem toStringVisitor_noTrap (tp : Option Pretty.TimePrinter)
    (htp : ∀ t, tp = some t → t.NoTrap) : (Pretty.toStringVisitor tp).NoTrap := by
  intro st ev input
  unfold Pretty.toStringVisitor
  dsimp only
  no_trap_steps [takeN_noTrap, printStruct_noTrap _ (htp _ rfl)]

theorem printEventMessage_noTrap (tp : Option Pretty.TimePrinter)
    (htp : ∀ t, tp = some t → t.NoTrap) (ev : Event) :
    NoTrap (Pretty.printEventMessage tp ev) := by
  have go fuel fmt tags args s : NoTrap (Pretty.printEventMessage.go tp fuel fmt tags args s) := by
    fun_induction Pretty.printEventMessage.go <;>
      no_trap_steps [visit_noTrap _ (toStringVisitor_noTrap tp htp)]
  unfold Pretty.printEventMessage
  no_trap_steps [go _ _ _ _ _]

theorem printEventField_noTrap (tp : Pretty.TimePrinter) (htp : tp.NoTrap) (spec : UInt8)
    (ev : Event) (wp : WriterProp) : NoTrap (Pretty.printEventField tp spec ev wp) := by
  have hm := printEventMessage_noTrap (some tp) (fun t h => by cases h; exact htp) ev
  unfold Pretty.printEventField
  no_trap_steps [htp.localTime _, htp.utcTime _, hm]

theorem printEvent_noTrap (tp : Pretty.TimePrinter) (htp : tp.NoTrap) (fmt : Bytes) (ev : Event)
    (wp : WriterProp) : NoTrap (Pretty.printEvent tp fmt ev wp) := by
  unfold Pretty.printEvent
  fun_induction Pretty.printEvent.go tp ev wp fmt [] <;>
    no_trap_steps [printEventField_noTrap tp htp _ ev wp]

theorem renderEvent_noTrap (fmt dateFmt : Bytes) (ev : Event) (wp : WriterProp) (cs : ClockSync) :
    NoTrap (Bread.renderEvent fmt dateFmt ev wp cs) :=
  printEvent_noTrap _ (timePrinter_noTrap fmt dateFmt cs) fmt ev wp

theorem itemsOf_noTrap (file : Bytes) : ItemsNoTrap (Bread.itemsOf file) := by
  have hr := readAll_noTrap {} (splitEntries file).1
  unfold Bread.itemsOf
  dsimp only
  split
  · exact hr
  · split
    · exact hr
    · exact hr.append (.error rfl)
    · exact hr.append (.error rfl)

theorem printUntilError_noTrap (fmt dateFmt : Bytes) (items : List Item) (hit : ItemsNoTrap items)
    (e : Err) (he : (Bread.printUntilError fmt dateFmt items).2 = some e) : e.isTrap = false := by
  fun_induction Bread.printUntilError fmt dateFmt items with
  | case1 => cases he
  | case2 e' rest => cases he; exact hit _ List.mem_cons_self
  | case3 ev wp cs rest e' hr =>
    cases he
    exact (renderEvent_noTrap fmt dateFmt ev wp cs).not_isTrap hr
  | case4 ev wp cs rest text hr ls err hrec ih => exact ih (fun e h => hit e (List.mem_cons_of_mem _ h)) (hrec ▸ he)

end BinlogVerif
