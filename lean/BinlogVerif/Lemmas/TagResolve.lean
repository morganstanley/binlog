import BinlogVerif.Lemmas.TagDefs
/-
  A sufficient condition for `EmptyStructsOk`: `resolve_recursive_tag(full, "{" + n)` is empty
  whenever "{" + n + "`" does not occur in the full tag, i.e. the full tag contains no struct
  DEFINITION with at least one field that is named exactly `n` (the backtick ends the name).
-/
namespace BinlogVerif.Mser
open BinlogVerif BinlogVerif.Tag BinlogVerif.Visit

theorem findSub_some {hay needle : Bytes} {p : Nat} (h : findSub hay needle = some p) :
    ∃ pre post, hay = pre ++ needle ++ post ∧ p = pre.length := by
  unfold findSub at h
  split at h
  · rename_i hn
    exact ⟨[], hay, by simp [List.isEmpty_iff.1 hn], by simpa using h.symm⟩
  · have go : ∀ hay i, findSub.go needle hay i = some p →
        ∃ pre post, hay = pre ++ needle ++ post ∧ p = i + pre.length := by
      intro hay
      induction hay with
      | nil => intro i h; simp [findSub.go] at h
      | cons x hay ih =>
        intro i h
        rw [findSub.go] at h
        split at h
        · rename_i hp
          obtain ⟨post, hpost⟩ := List.isPrefixOf_iff_prefix.1 hp
          exact ⟨[], post, by simp [hpost], by simpa using h.symm⟩
        · obtain ⟨pre, post, e, hp⟩ := ih (i + 1) h
          exact ⟨x :: pre, post, by simp [e], by simp [hp]; omega⟩
    simpa only [Nat.zero_add] using go hay 0 h

theorem findSub_none {hay needle : Bytes} (h : findSub hay needle = none) : ¬ needle <:+: hay := by
  unfold findSub at h
  split at h
  · cases h
  · rename_i hn
    generalize 0 = i at h
    induction hay generalizing i with
    | nil => rw [List.infix_nil]; exact fun e => hn (by simp [e])
    | cons x hay ih =>
      rw [findSub.go] at h
      split at h
      · cases h
      · rename_i hp
        rw [List.infix_cons_iff]
        exact fun o => o.elim (fun hpre => hp (List.isPrefixOf_iff_prefix.2 hpre)) (ih _ h)

theorem findSub_go_skip {q : UInt8} {nd s r : Bytes} {i : Nat} (h : q ∉ s) :
    findSub.go (q :: nd) (s ++ r) i = findSub.go (q :: nd) r (i + s.length) := by
  induction s generalizing i with
  | nil => simp
  | cons x s ih =>
    rw [List.mem_cons, not_or] at h
    rw [List.cons_append, findSub.go, List.isPrefixOf_cons_cons, beq_false_of_ne h.1, Bool.false_and,
      if_neg Bool.false_ne_true, ih h.2, List.length_cons, Nat.add_assoc, Nat.add_comm 1]

/-- `ft` is the part of the full tag still to be searched: the loop only ever looks at suffixes of it -/
theorem resolve_go_nil {full intro : Bytes} (hno : ¬ (intro ++ [cBacktick]) <:+: full)
    (fuel : Nat) (ft : Bytes) (hft : ft <:+ full) : resolveRecursiveTag.go intro fuel ft = [] := by
  induction fuel generalizing ft with
  | zero => simp [resolveRecursiveTag.go]
  | succ fuel ih =>
    rw [resolveRecursiveTag.go]
    by_cases he : ft.isEmpty = true
    · rw [if_pos he]
    · rw [if_neg he]
      cases hfs : findSub ft intro with
      | none => simp
      | some p =>
        obtain ⟨pre, post, rfl, rfl⟩ := findSub_some hfs
        simp only [List.append_assoc, List.drop_left]
        cases post with
        | nil => rfl
        | cons c post' =>
          simp only
          split
          · rfl
          · split
            · subst c
              exact absurd (List.IsInfix.trans ⟨pre, post', by simp⟩ hft.isInfix) hno
            · exact ih _ (List.IsSuffix.trans ⟨pre ++ intro, by simp⟩ hft)

theorem resolve_nil_of_not_infix {full n : Bytes} (hno : ¬ (cLBrace :: n ++ [cBacktick]) <:+: full) :
    resolveRecursiveTag full (cLBrace :: n) = [] := by
  simp only [resolveRecursiveTag, List.isEmpty_cons, Bool.false_eq_true, if_false]
  exact resolve_go_nil hno _ full List.suffix_rfl

/-- decidable sufficient condition for `EmptyStructsOk` -/
def noStructDef (full : Bytes) (n : Bytes) : Bool :=
  (findSub full (cLBrace :: n ++ [cBacktick])).isNone

theorem resolve_nil_of_noStructDef {full n : Bytes} (h : noStructDef full n = true) :
    resolveRecursiveTag full (cLBrace :: n) = [] :=
  resolve_nil_of_not_infix (findSub_none (Option.isNone_iff_eq_none.1 h))

end BinlogVerif.Mser
