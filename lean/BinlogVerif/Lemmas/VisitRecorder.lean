import BinlogVerif.Lemmas.VisitUnfold
/-
  Induction on the recursion budget; the loops over elements, members, fields and alternatives are list inductions that
  take the statement for the smaller budget as a hypothesis.
-/
namespace BinlogVerif.Mser
open BinlogVerif BinlogVerif.Tag BinlogVerif.Visit

theorem recorder_handle (st : List Ev) (ev : Ev) (input : Bytes) :
    recorder.handle st ev input = .ok (st ++ [ev], false, input) := rfl

theorem eventsNth_eq (alts : List Ty) (disc i : Nat) (v : Val) (h : i < alts.length) :
    eventsNth alts disc i v
      = [Ev.varBegin disc (tag (nthTy alts i))] ++ events (nthTy alts i) v ++ [Ev.varEnd] := by
  induction alts generalizing i with
  | nil => simp at h
  | cons a alts ih =>
    cases i with
    | zero => simp [eventsNth, nthTy]
    | succ i => simp only [eventsNth, nthTy]; exact ih i (by simpa using h)

theorem events_seq (e : Ty) (vs : List Val) :
    events (.seq e) (.seq vs) = [Ev.seqBegin vs.length (tag e)] ++
      (if vs.length > repeatThreshold ∧ singularTy e = true then
        (match vs with
         | v :: _ => [Ev.repeatBegin vs.length (tag e)] ++ events e v ++ [Ev.repeatEnd vs.length (tag e)]
         | [] => [])
       else eventsAll e vs) ++ [Ev.seqEnd] := by
  cases vs <;> simp only [events, Bool.and_eq_true, decide_eq_true_eq]

variable (full : Bytes)

/-- `full` is any tag in which the empty structs of `t` do not resolve, not `tag t`: the inner calls of
    `visit_impl` keep the outer full tag -/
def VisitsAt (m : Nat) : Prop :=
  ∀ (t : Ty) (v : Val) (acc : List Ev) (rest : Bytes), TyOk t = true → hasTy t v = true → depth t < m →
    ESNames full (emptyStructNames t) →
    visitImpl recorder full m (tag t) acc (encode t v ++ rest) = .ok (acc ++ events t v, rest)

section
variable {full} {m : Nat} (ih : VisitsAt full m)
include ih

theorem visit_all_of (e : Ty) (vs : List Val) (acc : List Ev) (rest : Bytes)
    (h : TyOk e = true) (hv : hasTyAll e vs = true) (hd : depth e < m)
    (he : ESNames full (emptyStructNames e)) :
    loopN (fun (p : List Ev × Bytes) => visitImpl recorder full m (tag e) p.1 p.2) vs.length
      (acc, encodeAll e vs ++ rest) = .ok (acc ++ eventsAll e vs, rest) := by
  induction vs generalizing acc with
  | nil => simp [loopN, encodeAll, eventsAll]
  | cons v vs ihv =>
    simp only [hasTyAll, Bool.and_eq_true] at hv
    simp only [List.length_cons, loopN, encodeAll, List.append_assoc, ih e v acc _ h hv.1 hd he, ihv _ hv.2,
      eventsAll]

theorem visit_list_of (es : List Ty) (vs : List Val) (f : Nat) (acc : List Ev) (rest : Bytes)
    (hf : es.length < f) (h : TyOkList es = true) (hv : hasTyList es vs = true)
    (hd : depthList es < m) (he : ESNames full (emptyStructNamesList es)) :
    visitImpl.tupLoop recorder full m f (tagList es) acc (encodeList es vs ++ rest)
      = .ok (acc ++ eventsList es vs, rest) := by
  induction es generalizing vs f acc with
  | nil => cases hasTyList_nil hv; simp [tupLoop_nil, encodeList, eventsList]
  | cons t ts iht =>
    obtain ⟨v, vs, rfl, hv1, hv2⟩ := hasTyList_cons hv
    simp only [TyOkList, Bool.and_eq_true, emptyStructNamesList, ESNames.append_iff, depthList, Nat.max_lt,
      List.length_cons] at h he hd hf
    rw [tupLoop_cons (Nat.zero_lt_of_lt hf) _ _ (TyOkN.of_tyOk h.1)]
    simp only [encodeList, List.append_assoc, ih t v acc _ h.1 hv1 hd.1 he.1, andThen,
      iht vs (f - 1) _ (Nat.lt_sub_of_add_lt hf) h.2 hv2 hd.2 he.2, eventsList]

theorem visit_fields_of (fs : List (Bytes × Ty)) (vs : List Val) (f : Nat) (acc : List Ev) (rest : Bytes)
    (hf : fs.length < f) (h : TyOkFields fs = true) (hv : hasTyFields fs vs = true)
    (hd : depthFields fs < m ∨ fs = []) (he : ESNames full (emptyStructNamesFields fs)) :
    visitImpl.fieldLoop recorder full m f (tagFields fs) acc (encodeFields fs vs ++ rest)
      = .ok (acc ++ eventsFields fs vs, rest) := by
  induction fs generalizing vs f acc with
  | nil => cases hasTyFields_nil hv; simp [fieldLoop_nil, encodeFields, eventsFields]
  | cons a fs ihf =>
    obtain ⟨n, t⟩ := a
    obtain ⟨v, vs, rfl, hv1, hv2⟩ := hasTyFields_cons hv
    simp only [TyOkFields, Bool.and_eq_true, emptyStructNamesFields, ESNames.append_iff, List.length_cons] at h he hf
    have hd' := depthFields_cons_lt hd
    rw [fieldLoop_cons (Nat.zero_lt_of_lt hf) _ _ _ h.1.1 (TyOkN.of_tyOk h.1.2)]
    simp only [encodeFields, List.append_assoc, call, andThen, recorder_handle, ih t v _ _ h.1.2 hv1 hd'.1 he.1,
      ihf vs (f - 1) _ (Nat.lt_sub_of_add_lt hf) h.2 hv2 hd'.2 he.2, eventsFields, List.cons_append, List.nil_append]

theorem visit_nth_of (alts : List Ty) (i : Nat) (v : Val) (acc : List Ev) (rest : Bytes)
    (h : ∀ t ∈ alts, TyOkN t = true) (hv : hasTyNth alts i v = true)
    (hd : depthList alts < m) (he : ESNames full (emptyStructNamesList alts)) :
    (if tag (nthTy alts i) = [cZero] then (.ok (acc ++ [Ev.null], encodeNth alts i v ++ rest) : Outcome _)
      else visitImpl recorder full m (tag (nthTy alts i)) acc (encodeNth alts i v ++ rest))
      = .ok (acc ++ events (nthTy alts i) v, rest) := by
  induction alts generalizing i with
  | nil => simp [hasTyNth.eq_def] at hv
  | cons t ts iha =>
    simp only [emptyStructNamesList, ESNames.append_iff, depthList, Nat.max_lt] at he hd
    cases i with
    | zero =>
      simp only [hasTyNth] at hv
      simp only [nthTy, encodeNth]
      rcases tyOkN_cases (h t (by simp)) with rfl | ht
      · cases v <;> simp [hasTy.eq_def] at hv
        simp [tag_null, encode, events]
      · rw [if_neg (tag_ne_zero ht)]
        exact ih t v acc rest ht hv hd.1 he.1
    | succ i =>
      simp only [hasTyNth] at hv
      simp only [nthTy, encodeNth]
      exact iha i (fun x hx => h x (by simp [hx])) hv hd.2 he.2

end

theorem visitsAt : ∀ m, VisitsAt full m := by
  intro m
  induction m with
  | zero => intro t v acc rest _ _ hd; omega
  | succ m ih =>
    intro t v acc rest h hv hd he
    have ty := Typed.of_hasTy h hv hd he
    clear h hv hd he
    cases ty with
    | arith hs hr => simp only [visitImpl_arith hs hr, call, ret, recorder_handle, events]
    | @seq e vs h hv hl hd he =>
      simp only [visitImpl_seq h hl hd he, bracket, recorder_handle, Bool.false_eq_true, if_false, seqBody,
        events_seq]
      by_cases hc : vs.length > repeatThreshold ∧ singularTy e = true
      · obtain ⟨v0, vs', rfl⟩ := List.exists_cons_of_length_pos (Nat.zero_lt_of_lt hc.1)
        simp only [hasTyAll, Bool.and_eq_true] at hv
        have ih := fun acc => ih e v0 acc rest h hv.1 hd he
        simp only [encode_singular e v0 hc.2, List.nil_append] at ih
        simp only [if_pos hc, encodeAll_singular e _ hc.2, List.nil_append, call, ret, recorder_handle, ih, andThen,
          List.append_assoc]
      · rw [if_neg hc, if_neg hc, visit_all_of ih e vs _ rest h hv hd he]
        simp only [andThen, call, ret, recorder_handle, List.append_assoc]
    | @tup es vs h hv hd he =>
      simp only [visitImpl_tup, bracket, recorder_handle, Bool.false_eq_true, if_false]
      rw [visit_list_of ih es vs _ _ rest (Nat.lt_add_one_of_le (length_le_tagList es)) h hv hd he]
      simp only [andThen, call, ret, recorder_handle, events, List.append_assoc]
    | @var alts i v h hi hv hd he =>
      simp only [visitImpl_var h hi hv, bracket, call, ret, recorder_handle, Bool.false_eq_true, if_false]
      rw [visit_nth_of ih alts i v (acc ++ [Ev.varBegin i (tag (nthTy alts i))]) rest h hv hd he]
      simp only [andThen, call, ret, recorder_handle, events, eventsNth_eq alts i i v (hasTyNth_lt hv), List.append_assoc]
    | enum hs hn hens hnb hr => simp only [visitImpl_enum hs hn hens hnb hr, call, ret, recorder_handle, events]
    | @struct n fs vs hn h hv hd he hes =>
      simp only [visitImpl_struct hn hes, bracket, recorder_handle, Bool.false_eq_true, if_false]
      rw [visit_fields_of ih fs vs _ _ rest (Nat.lt_add_one_of_le (length_le_tagFields fs)) h hv (.inl hd) he]
      simp only [andThen, call, ret, recorder_handle, events, List.append_assoc]

theorem visit_all (e : Ty) (vs : List Val) (m : Nat) (acc : List Ev) (rest : Bytes)
    (h : TyOk e = true) (hv : hasTyAll e vs = true) (hd : depth e < m)
    (he : ESNames full (emptyStructNames e)) :
    loopN (fun (p : List Ev × Bytes) => visitImpl recorder full m (tag e) p.1 p.2) vs.length
      (acc, encodeAll e vs ++ rest) = .ok (acc ++ eventsAll e vs, rest) :=
  visit_all_of (visitsAt full m) e vs acc rest h hv hd he

theorem visit_list (es : List Ty) (vs : List Val) (m f : Nat) (acc : List Ev) (rest : Bytes)
    (hf : es.length < f) (h : TyOkList es = true) (hv : hasTyList es vs = true)
    (hd : depthList es < m) (he : ESNames full (emptyStructNamesList es)) :
    visitImpl.tupLoop recorder full m f (tagList es) acc (encodeList es vs ++ rest)
      = .ok (acc ++ eventsList es vs, rest) :=
  visit_list_of (visitsAt full m) es vs f acc rest hf h hv hd he

theorem visit_fields (fs : List (Bytes × Ty)) (vs : List Val) (m f : Nat) (acc : List Ev) (rest : Bytes)
    (hf : fs.length < f) (h : TyOkFields fs = true) (hv : hasTyFields fs vs = true)
    (hd : depthFields fs < m ∨ fs = []) (he : ESNames full (emptyStructNamesFields fs)) :
    visitImpl.fieldLoop recorder full m f (tagFields fs) acc (encodeFields fs vs ++ rest)
      = .ok (acc ++ eventsFields fs vs, rest) :=
  visit_fields_of (visitsAt full m) fs vs f acc rest hf h hv hd he

theorem visit_nth (alts : List Ty) (i : Nat) (v : Val) (m : Nat) (acc : List Ev) (rest : Bytes)
    (h : ∀ t ∈ alts, TyOkN t = true) (hv : hasTyNth alts i v = true)
    (hd : depthList alts < m) (he : ESNames full (emptyStructNamesList alts)) :
    (if tag (nthTy alts i) = [cZero] then (.ok (acc ++ [Ev.null], encodeNth alts i v ++ rest) : Outcome _)
      else visitImpl recorder full m (tag (nthTy alts i)) acc (encodeNth alts i v ++ rest))
      = .ok (acc ++ events (nthTy alts i) v, rest) :=
  visit_nth_of (visitsAt full m) alts i v acc rest h hv hd he

end BinlogVerif.Mser
