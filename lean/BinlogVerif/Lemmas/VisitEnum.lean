import BinlogVerif.Mser.Spec
import BinlogVerif.Lemmas.TagParse
import BinlogVerif.Lemmas.TagResolve
/-
  The enumerator lookup of `visit_enum` (`find("'" + hex + "`")` in the enum tag) agrees with
  `lookupEnumerator`; `integerToHex` of a non-bool produces only `0-9A-F-`.
-/
namespace BinlogVerif.Mser
open BinlogVerif BinlogVerif.Tag BinlogVerif.Visit

/-- the sixteen digits `write_integer_as_hex` produces -/
theorem hexChar_digit : ∀ d < 16, hexChar (if d < 10 then UInt8.ofNat (48 + d) else UInt8.ofNat (55 + d)) = true := by
  decide

theorem hexDigitsUpper_go_hex {fuel n : Nat} {acc : Bytes} (h : ∀ x ∈ acc, hexChar x = true) :
    ∀ x ∈ hexDigitsUpper.go fuel n acc, hexChar x = true := by
  induction fuel generalizing n acc with
  | zero => simpa [hexDigitsUpper.go] using h
  | succ f ih =>
    rw [hexDigitsUpper.go]
    split
    · exact h
    · exact ih (List.forall_mem_cons.2 ⟨hexChar_digit _ (Nat.mod_lt _ (by decide)), h⟩)

theorem hexDigitsUpper_hex (n : Nat) : ∀ x ∈ hexDigitsUpper n, hexChar x = true := by
  unfold hexDigitsUpper
  split
  · decide
  · exact hexDigitsUpper_go_hex (by simp)

theorem integerToHex_hex (c : UInt8) (raw : Nat) (hc : c ≠ 121) : ∀ x ∈ integerToHex c raw, hexChar x = true := by
  unfold integerToHex
  split
  · simp
  · split
    · simp
    · dsimp only
      split
      · exact List.forall_mem_cons.2 ⟨by decide, hexDigitsUpper_hex _⟩
      · exact hexDigitsUpper_hex _

theorem isPrefixOf_sep (c : UInt8) (hc : charOk c = false) {a b : Bytes} (ha : Plain a) (hb : Plain b) (r : Bytes) :
    (a ++ [c]).isPrefixOf (b ++ c :: r) = decide (a = b) := by
  rw [Bool.eq_iff_iff, List.isPrefixOf_iff_prefix, decide_eq_true_iff]
  refine ⟨fun ⟨t, e⟩ => ?_, fun e => ⟨r, by rw [e, List.append_assoc]; rfl⟩⟩
  rw [List.append_assoc] at e
  exact (plain_sep ha hb hc hc e).1

/-- the dvalue search of `visit_enum`, started after an already scanned prefix `p`.  The pattern `'hex`` begins
    with the quote that closes the previous label: at an entry it matches iff the entry's value is `hexv`
    (`isPrefixOf_sep`); otherwise the search skips to the next quote, where the next entry starts
    (`findSub_go_skip`). -/
theorem enum_find (hexv : Bytes) (hh : Plain hexv) (ens : List (Bytes × Bytes)) (hens : EnumsOk ens = true)
    (p : Bytes) :
    (match findSub.go (cQuote :: (hexv ++ [cBacktick])) (cQuote :: tagEnums ens) p.length with
      | some pos => (tagPopLabel ((p ++ cQuote :: tagEnums ens).drop
          (pos + ([cQuote] ++ hexv ++ [cBacktick]).length - 1))).1
      | none => []) = lookupEnumerator hexv ens := by
  induction ens generalizing p with
  | nil =>
    have : (hexv ++ [cBacktick]).isPrefixOf [] = false := by
      cases hexv <;> simp
    simp [tagEnums_nil, findSub.go, this, lookupEnumerator]
  | cons a ens ih =>
    obtain ⟨h, n⟩ := a
    obtain ⟨hph, hpn, hens⟩ := enumsOk_cons hens
    rw [tagEnums_cons, findSub.go, List.isPrefixOf_cons_cons,
      isPrefixOf_sep cBacktick rfl hh hph]
    simp only [beq_self_eq_true, Bool.true_and, decide_eq_true_eq, lookupEnumerator]
    by_cases e : hexv = h
    · subst e
      rw [if_pos rfl, if_pos rfl]
      dsimp only
      rw [← List.cons_append, ← List.append_assoc,
        List.drop_left' (by simp only [List.length_append, List.length_cons, List.length_nil]; omega),
        tagPopLabel_label n _ hpn]
    · rw [if_neg e, if_neg (Ne.symm e)]
      have hq : cQuote ∉ h ++ cBacktick :: n := by
        simp only [List.mem_append, List.mem_cons, not_or]
        exact ⟨hph.not_mem_special rfl, by decide, hpn.not_mem_special rfl⟩
      have := ih hens (p ++ cQuote :: (h ++ cBacktick :: n))
      rw [show (p ++ cQuote :: (h ++ cBacktick :: n)).length = p.length + 1 + (h ++ cBacktick :: n).length by
        simp only [List.length_append, List.length_cons]; omega, ← findSub_go_skip hq] at this
      simpa only [List.append_assoc, List.cons_append] using this

/-- the lookup as `visit_impl` writes it in its enum branch (Mser/Visit.lean): `enum_find` with nothing scanned yet -/
theorem enum_lookup (hexv : Bytes) (hh : Plain hexv) (ens : List (Bytes × Bytes)) (hens : EnumsOk ens = true) :
    (match findSub (cQuote :: tagEnums ens) ([cQuote] ++ hexv ++ [cBacktick]) with
      | some pos => (tagPopLabel ((cQuote :: tagEnums ens).drop
          (pos + ([cQuote] ++ hexv ++ [cBacktick]).length - 1))).1
      | none => []) = lookupEnumerator hexv ens :=
  enum_find hexv hh ens hens []

end BinlogVerif.Mser
