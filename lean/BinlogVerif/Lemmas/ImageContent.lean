import BinlogVerif.Lemmas.ImageScan
import BinlogVerif.Lemmas.ImageSort
/-
  Lemmas for C08: from the buffers the tool is to find (`expected img`) to the payloads the image
  holds and to the bytes `recover` writes.  Nothing here depends on the bytes between the blocks.
-/
namespace BinlogVerif.Image
open BinlogVerif BinlogVerif.Recovery

/-- payloads counted by the size field of a metadata block that carries the magic -/
def Piece.metaPayloads : Piece → List Bytes
  | .metaOn _ es _ => es
  | _ => []

/-- payloads of the committed, unreleased entries of a queue that carries the magic -/
def Piece.chanPayloads : Piece → List Bytes
  | .chan _ c => if c.magicOn then c.pending else []
  | _ => []

def metaPayloads (img : List (Bytes × Piece)) : List Bytes := img.flatMap (·.2.metaPayloads)
def chanPayloads (img : List (Bytes × Piece)) : List Bytes := img.flatMap (·.2.chanPayloads)

theorem frames_nil : frames [] = [] := rfl

theorem Piece.recovered_buffer {p : Piece} {b : Recovered} (h : p.recovered = some b) :
    b.buffer = frames (p.metaPayloads ++ p.chanPayloads) := by
  cases p with
  | metaOn s es extra => cases h; simp [Piece.metaPayloads, Piece.chanPayloads]
  | chan s c =>
    by_cases hm : c.magicOn = true
    · simp only [Piece.recovered, hm, if_true] at h
      cases h
      simp [Piece.metaPayloads, Piece.chanPayloads, hm]
    · simp [Piece.recovered, hm] at h
  | off bs => cases h

theorem buffers_of (q : Recovered → Bool) (g : Piece → List Bytes)
    (hp : ∀ p : Piece, ((p.recovered.toList.filter q).map (·.buffer)).flatten = frames (g p)) (img : List (Bytes × Piece)) :
    (((expected img).filter q).map (·.buffer)).flatten = frames (img.flatMap (g ·.2)) := by
  induction img with
  | nil => rfl
  | cons x rest ih =>
    obtain ⟨f, p⟩ := x
    rw [expected_cons, List.filter_append, List.map_append, List.flatten_append, hp, ih, List.flatMap_cons, frames_append]

theorem meta_buffers (img : List (Bytes × Piece)) :
    (((expected img).filter isMeta).map (·.buffer)).flatten = frames (metaPayloads img) :=
  buffers_of isMeta Piece.metaPayloads (fun p => by
    cases p with
    | chan s c => by_cases hc : c.magicOn = true <;> simp [Piece.recovered, Piece.metaPayloads, isMeta, hc, frames_nil]
    | _ => simp [Piece.recovered, Piece.metaPayloads, isMeta, frames_nil]) img

theorem chan_buffers (img : List (Bytes × Piece)) :
    (((expected img).filter isData).map (·.buffer)).flatten = frames (chanPayloads img) :=
  buffers_of isData Piece.chanPayloads (fun p => by
    cases p with
    | chan s c => by_cases hc : c.magicOn = true <;> simp [Piece.recovered, Piece.chanPayloads, isData, hc, frames_nil]
    | _ => simp [Piece.recovered, Piece.chanPayloads, isData, frames_nil]) img

theorem one_session_output (img : List (Bytes × Piece)) (sess : Nat) (hone : ∀ b ∈ expected img, b.session = sess) :
    (((expected img).mergeSort bufLe).map (·.buffer)).flatten = frames (metaPayloads img ++ chanPayloads img) := by
  rw [mergeSort_one_session _ sess hone, List.map_append, List.flatten_append, meta_buffers, chan_buffers, frames_append]

theorem sound_of_imageOkE {img : List (Bytes × Piece)} {t : Bytes} (h : ImageOkE img t) : ∀ x ∈ img, x.2.Sound := by
  induction img with
  | nil => exact fun _ hx => nomatch hx
  | cons y rest ih =>
    obtain ⟨f, p⟩ := y
    exact List.forall_mem_cons.mpr ⟨(Piece.okE_iff.mp h.2.1).1, ih h.2.2⟩

theorem payloads_ok (img : List (Bytes × Piece)) (h : ∀ x ∈ img, x.2.Sound) :
    ∀ p, p ∈ metaPayloads img ∨ p ∈ chanPayloads img → PayloadOk p := by
  intro p hp
  simp only [metaPayloads, chanPayloads, List.mem_flatMap] at hp
  obtain ⟨x, hx, hp⟩ | ⟨x, hx, hp⟩ := hp <;> have hs := h x hx <;> obtain ⟨f, pc⟩ := x <;> cases pc
  all_goals simp only [Piece.metaPayloads, Piece.chanPayloads, List.not_mem_nil] at hp
  · exact hs.2.2 p hp
  · split at hp
    · rename_i hm; exact (hs hm).2.2.2.2.2.2.2 p hp
    · cases hp

theorem expected_payloads_junk (img : List (Bytes × Piece)) (t : Bytes) (h : ImageOkE img t) :
    ∀ b ∈ expected img, ∃ ps, b.buffer = frames ps ∧ (∀ p ∈ ps, PayloadOk p) ∧
      ∀ p ∈ ps, p ∈ metaPayloads img ∨ p ∈ chanPayloads img := by
  intro b hb
  obtain ⟨x, hx, hr⟩ := List.mem_filterMap.mp hb
  have m : ∀ p ∈ x.2.metaPayloads ++ x.2.chanPayloads, p ∈ metaPayloads img ∨ p ∈ chanPayloads img := fun p hp => by
    simp only [metaPayloads, chanPayloads, List.mem_flatMap]
    exact (List.mem_append.mp hp).imp (fun h => ⟨x, hx, h⟩) (fun h => ⟨x, hx, h⟩)
  exact ⟨_, Piece.recovered_buffer hr, fun p hp => payloads_ok img (sound_of_imageOkE h) p (m p hp), m⟩

theorem expected_payloads (img : List (Bytes × Piece)) (t : Bytes) (h : ImageOk img t) :
    ∀ b ∈ expected img, ∃ ps, b.buffer = frames ps ∧ (∀ p ∈ ps, PayloadOk p) ∧
      ∀ p ∈ ps, p ∈ metaPayloads img ∨ p ∈ chanPayloads img :=
  expected_payloads_junk img t (imageOkE_of_imageOkI (imageOkI_of_imageOk h))

end BinlogVerif.Image
