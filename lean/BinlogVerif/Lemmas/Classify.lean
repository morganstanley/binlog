import BinlogVerif.Lemmas.Reader
import BinlogVerif.Reader.Filter
namespace BinlogVerif

theorem special_tags :
    isSpecial tagEventSource = true ∧ isSpecial tagWriterProp = true ∧ isSpecial tagClockSync = true ∧
    tagEventSource ≠ tagWriterProp ∧ tagEventSource ≠ tagClockSync ∧ tagWriterProp ≠ tagClockSync := by
  decide

inductive PayloadKind where
  | empty
  | short                                  -- 1..7 bytes: no tag
  | source (s : EventSource)
  | badSource (e : Err)
  | writerProp (w : WriterProp)
  | badWriterProp (e : Err)
  | clockSync (c : ClockSync)
  | badClockSync (e : Err)
  | unknownSpecial (tag : Nat)
  | event (id : Nat) (rest : Bytes)        -- non-special tag, rest = clock + arguments (maybe short)
deriving Repr

/-- The three known tags are tested before the top bit, so that each kind is one branch of a flat chain; the reader and
    the filter test the top bit first, which comes to the same because the three tags have it set (`classify_tagged`). -/
def classify (p : Bytes) : PayloadKind :=
  if p.isEmpty then .empty else
  match readU 8 p with
  | .error _ => .short
  | .ok (tag, body) =>
    if tag = tagEventSource then
      match decSource body with
      | .ok (s, _) => .source s
      | .error e => .badSource e
    else if tag = tagWriterProp then
      match decWriterProp body with
      | .ok (w, _) => .writerProp w
      | .error e => .badWriterProp e
    else if tag = tagClockSync then
      match decClockSync body with
      | .ok (c, _) => .clockSync c
      | .error e => .badClockSync e
    else if isSpecial tag then .unknownSpecial tag
    else .event tag body

/-- `induction p using classify_cases` also replaces `classify p` by the kind, in the goal and in the hypotheses about `p` -/
@[elab_as_elim]
theorem classify_cases {motive : Bytes → PayloadKind → Prop}
    (empty : motive [] .empty)
    (short : ∀ {p}, p.isEmpty = false → readU 8 p = .error .overflow → motive p .short)
    (source : ∀ {p body s r}, readU 8 p = .ok (tagEventSource, body) → decSource body = .ok (s, r) →
      motive p (.source s))
    (badSource : ∀ {p body e}, readU 8 p = .ok (tagEventSource, body) → decSource body = .error e →
      motive p (.badSource e))
    (writerProp : ∀ {p body w r}, readU 8 p = .ok (tagWriterProp, body) → decWriterProp body = .ok (w, r) →
      motive p (.writerProp w))
    (badWriterProp : ∀ {p body e}, readU 8 p = .ok (tagWriterProp, body) → decWriterProp body = .error e →
      motive p (.badWriterProp e))
    (clockSync : ∀ {p body c r}, readU 8 p = .ok (tagClockSync, body) → decClockSync body = .ok (c, r) →
      motive p (.clockSync c))
    (badClockSync : ∀ {p body e}, readU 8 p = .ok (tagClockSync, body) → decClockSync body = .error e →
      motive p (.badClockSync e))
    (unknownSpecial : ∀ {p tag body}, readU 8 p = .ok (tag, body) → isSpecial tag = true → tag ≠ tagEventSource →
      tag ≠ tagWriterProp → tag ≠ tagClockSync → motive p (.unknownSpecial tag))
    (event : ∀ {p} id rest, readU 8 p = .ok (id, rest) → isSpecial id = false → motive p (.event id rest))
    (p : Bytes) : motive p (classify p) := by
  fun_cases classify p with
  | case1 hE => rwa [List.isEmpty_iff.mp hE]
  | case2 hE e hr => exact short (by simpa using hE) (readU_error_overflow hr ▸ hr)
  | case3 => exact source ‹_› ‹_›
  | case4 => exact badSource ‹_› ‹_›
  | case5 => exact writerProp ‹_› ‹_›
  | case6 => exact badWriterProp ‹_› ‹_›
  | case7 => exact clockSync ‹_› ‹_›
  | case8 => exact badClockSync ‹_› ‹_›
  | case9 _ _ _ hr h1 h2 h3 hs => exact unknownSpecial hr hs h1 h2 h3
  | case10 _ _ _ hr _ _ _ hs => exact event _ _ hr (by simpa using hs)

theorem classify_short {p : Bytes} (h0 : p ≠ []) (h : p.length < 8) : classify p = .short := by
  unfold classify
  rw [if_neg (by simpa using h0), readU_short 8 p h]

/-- the top bit (`isSpecial`) is looked at first here, as the reader and the filter do -/
theorem classify_tagged {tag : Nat} (body : Bytes) (ht : tag < 2^64) :
    classify (le 8 tag ++ body) =
      if isSpecial tag then
        if tag = tagEventSource then
          match decSource body with
          | .ok (s, _) => .source s
          | .error e => .badSource e
        else if tag = tagWriterProp then
          match decWriterProp body with
          | .ok (w, _) => .writerProp w
          | .error e => .badWriterProp e
        else if tag = tagClockSync then
          match decClockSync body with
          | .ok (c, _) => .clockSync c
          | .error e => .badClockSync e
        else .unknownSpecial tag
      else .event tag body := by
  obtain ⟨s1, s2, s3, -⟩ := special_tags
  unfold classify
  rw [le_append_isEmpty 8 tag body (by decide), readU_le_append 8 tag body ht]
  simp only [Bool.false_eq_true, if_false]
  by_cases hs : isSpecial tag = true
  · simp only [hs, if_true]
  · have h1 : tag ≠ tagEventSource := by rintro rfl; exact hs s1
    have h2 : tag ≠ tagWriterProp := by rintro rfl; exact hs s2
    have h3 : tag ≠ tagClockSync := by rintro rfl; exact hs s3
    simp only [hs, h1, h2, h3, if_false]

def processSpec (st : ReaderState) : PayloadKind → Outcome EntryResult × ReaderState
  | .empty => (.ok .stop, st)
  | .short => (.error .overflow, st)
  | .source s => (.ok .skip, { st with sources := st.sources.emplace s.id s })
  | .badSource e => (.error e, st)
  | .writerProp w => (.ok .skip, { st with writerProp := w })
  | .badWriterProp e => (.error e, st)
  | .clockSync c => (.ok .skip, { st with clockSync := c })
  | .badClockSync e => (.error e, st)
  | .unknownSpecial _ => (.ok .skip, st)
  | .event id rest =>
    match st.sources.find id with
    | none => (.error .invalidSource, st)
    | some src =>
      match readU 8 rest with
      | .error e => (.error e, st)
      | .ok (clock, args) => (.ok (.event ⟨src, clock, args⟩), st)

theorem processEntry_eq_spec (st : ReaderState) (p : Bytes) :
    processEntry st p = processSpec st (classify p) := by
  obtain ⟨s1, s2, s3, n12, n13, n23⟩ := special_tags
  unfold processEntry processEntryCore
  induction p using classify_cases with
  | empty => rfl
  | short h0 hr => simp [h0, hr, processSpec, bind, Except.bind]
  | event id rest hr hs =>
    simp only [isEmpty_of_readU hr, hr, hs, processSpec, bind, Except.bind, Bool.false_eq_true, if_false]
    cases st.sources.find id with
    | none => rfl
    | some src => rcases readU 8 rest with e | ⟨c, a⟩ <;> rfl
  | unknownSpecial hr hs h1 h2 h3 =>
    simp [isEmpty_of_readU hr, hr, hs, h1, h2, h3, processSpec, bind, Except.bind, pure, Except.pure]
  | source hr hd | writerProp hr hd | clockSync hr hd | badSource hr hd | badWriterProp hr hd | badClockSync hr hd =>
    simp [isEmpty_of_readU hr, hr, hd, s1, s2, s3, n12.symm, n13.symm, n23.symm, processSpec, bind, Except.bind,
      pure, Except.pure]

/-- what the filter does for a payload of each kind -/
def filterSpec (pred : EventSource → Bool) (allowed : IdSet) : PayloadKind → Outcome (Bool × IdSet)
  | .empty => .error .overflow
  | .short => .error .overflow
  | .source s => .ok (true, allowed.set s.id (pred s))
  | .badSource e => .error e
  | .writerProp _ => .ok (true, allowed)
  | .badWriterProp _ => .ok (true, allowed)
  | .clockSync _ => .ok (true, allowed)
  | .badClockSync _ => .ok (true, allowed)
  | .unknownSpecial _ => .ok (true, allowed)
  | .event id _ => .ok (allowed id, allowed)

theorem filterEntry_eq_spec (pred : EventSource → Bool) (allowed : IdSet) (p : Bytes) :
    filterEntry pred allowed p = filterSpec pred allowed (classify p) := by
  obtain ⟨s1, s2, s3, n12, n13, n23⟩ := special_tags
  unfold filterEntry
  induction p using classify_cases with
  | empty => rfl
  | short _ hr => simp [hr, filterSpec, bind, Except.bind]
  | event id rest hr hs => simp [hr, hs, filterSpec, bind, Except.bind, pure, Except.pure]
  | unknownSpecial hr hs h1 => simp [hr, hs, h1, filterSpec, bind, Except.bind, pure, Except.pure]
  | source hr hd | writerProp hr hd | clockSync hr hd | badSource hr hd | badWriterProp hr hd | badClockSync hr hd =>
    simp [hr, hd, s1, s2, s3, n12.symm, n13.symm, filterSpec, bind, Except.bind, pure, Except.pure]

theorem processEntry_event (st : ReaderState) (id : Nat) (rest : Bytes) (hid : id < 2^63) :
    processEntry st (le 8 id ++ rest) =
      match st.sources.find id with
      | none => (.error .invalidSource, st)
      | some src =>
        match readU 8 rest with
        | .error e => (.error e, st)
        | .ok (clock, args) => (.ok (.event ⟨src, clock, args⟩), st) := by
  have hsp : ¬ isSpecial id = true := by simp [isSpecial]; omega
  rw [processEntry_eq_spec, classify_tagged rest (Nat.lt_trans hid (by decide)), if_neg hsp]
  rfl

end BinlogVerif
