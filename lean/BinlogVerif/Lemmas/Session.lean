import BinlogVerif.Conc.Session
namespace BinlogVerif.Sess
open BinlogVerif

/-- side conditions on an operation in a state: a log statement uses a source id that
    `addEventSource` has returned, writers are created once, operations name live writers -/
def OpOk (s : Session) : Op → Prop
  | .log _ sid _ _ _ => 1 ≤ sid ∧ sid < s.nextSourceId
  | .createWriter w _ _ => lookupWriter s w = none ∧ ∀ c ∈ s.channels, c.owner ≠ w
  | _ => True

/-- every operation of the trace satisfies its side condition in the state where it runs -/
def TraceOk : Session → List Op → Prop
  | _, [] => True
  | s, op :: ops => OpOk s op ∧ ∀ s', step s op = some s' → TraceOk s' ops

instance (s : Session) (op : Op) : Decidable (OpOk s op) := by
  cases op <;> unfold OpOk <;> infer_instance

instance decTraceOk : (s : Session) → (ops : List Op) → Decidable (TraceOk s ops)
  | _, [] => isTrue trivial
  | s, op :: ops =>
    match hs : step s op with
    | none => decidable_of_iff (OpOk s op) (by simp [TraceOk, hs])
    | some s' =>
      have := decTraceOk s' ops
      decidable_of_iff (OpOk s op ∧ TraceOk s' ops) (by simp [TraceOk, hs])

/-- The invariant may speak of the operations still to run: that is how trace side conditions (`TraceOk`, `SyncTrace`,
    well-formedness of the operations' data) reach the step where they are needed. -/
theorem exec_invariant (P : Session → List Op → Prop)
    (hstep : ∀ s op ops s1, P s (op :: ops) → step s op = some s1 → P s1 ops)
    {s : Session} {ops : List Op} {s' : Session} (h0 : P s ops) (hrun : exec s ops = some s') : P s' [] := by
  induction ops generalizing s with
  | nil => cases hrun; exact h0
  | cons op ops ih =>
    simp only [exec] at hrun
    split at hrun
    · rename_i s1 hs; exact ih (hstep s op ops s1 h0 hs) hrun
    · cases hrun

theorem exec_induction (P : Session → Prop) (s : Session) (ops : List Op) (s' : Session)
    (h0 : P s) (hok : TraceOk s ops)
    (hstep : ∀ s op s1, P s → OpOk s op → step s op = some s1 → P s1)
    (hrun : exec s ops = some s') : P s' :=
  (exec_invariant (fun s ops => P s ∧ TraceOk s ops)
    (fun s op _ s1 h hs => ⟨hstep s op s1 h.1 h.2.1 hs, h.2.2 s1 hs⟩) ⟨h0, hok⟩ hrun).1

theorem exec_append (s : Session) (a b : List Op) :
    exec s (a ++ b) = (exec s a).bind (fun s1 => exec s1 b) := by
  induction a generalizing s with
  | nil => rfl
  | cons op ops ih =>
    simp only [List.cons_append, exec]
    cases step s op with
    | none => rfl
    | some s1 => exact ih s1

theorem emitAll_eq (s : Session) (ws : List Write) :
    emitAll s ws = { s with outputs := s.outputs.dropLast ++ [s.outputs.getLast?.getD [] ++ ws] } := by
  unfold emitAll
  rcases List.eq_nil_or_concat s.outputs with h | ⟨older, cur, h⟩ <;> simp [h]

theorem consume_fst (s : Session) (polls : List Poll) : (consume s polls).1 =
    { s with consumeClockSync := false, sourcesConsumed := s.sources.length,
             channels := (pollAll s.channels polls).chans,
             totalConsumed := s.totalConsumed + (consume s polls).2.bytesConsumed,
             delivered := s.delivered ++ (pollAll s.channels polls).delivered,
             lost := s.lost ++ (pollAll s.channels polls).lost,
             outputs := s.outputs.dropLast ++ [s.outputs.getLast?.getD [] ++ consumeWrites s polls] } := by
  simp [consume, emitAll_eq]

theorem reconsumeMetadata_fst (s : Session) : (reconsumeMetadata s).1 =
    { s with totalConsumed := s.totalConsumed + (reconsumeMetadata s).2.bytesConsumed,
             outputs := s.outputs.dropLast ++
               [s.outputs.getLast?.getD [] ++ [s.clockSyncs, s.sources.take s.sourcesConsumed]] } := by
  simp [reconsumeMetadata, emitAll_eq]

theorem consumeWrites_flatten (s : Session) (polls : List Poll) :
    (consumeWrites s polls).flatten =
      (if s.consumeClockSync then s.clockSyncs else []) ++ s.sources.drop s.sourcesConsumed ++
      (pollAll s.channels polls).writes.flatten := by
  unfold consumeWrites
  cases s.consumeClockSync <;> simp

/-- The two optional updates of `createWriter` are written as updates by a conditional function, so that no case carries
    an `if` between states; `consume` and `rotate` are given as plain record updates (`emitAll` resolved). -/
@[elab_as_elim] theorem step_cases {motive : Op → Session → Prop} {s : Session} {op : Op} {s' : Session}
    (h : step s op = some s')
    (createWriter : ∀ w id name,
      motive (.createWriter w id name)
        (updChan (updChan (setWriter (newChan s w {}).1 w (some s.nextCid)) s.nextCid
            (fun c => if id != 0 then { c with wp := { c.wp with id := id } } else c)) s.nextCid
          (fun c => if !name.isEmpty then { c with wp := { c.wp with name := name } } else c)))
    (setWriterId : ∀ w id cid, lookupWriter s w = some cid →
      motive (.setWriterId w id) (updChan s cid (fun c => { c with wp := { c.wp with id := id } })))
    (setWriterName : ∀ w name cid, lookupWriter s w = some cid →
      motive (.setWriterName w name) (updChan s cid (fun c => { c with wp := { c.wp with name := name } })))
    (addSource : ∀ src,
      motive (.addSource src)
        { s with sources := s.sources ++ [.source { src with id := s.nextSourceId }], nextSourceId := s.nextSourceId + 1 })
    (logFits : ∀ w sid clock args cid, lookupWriter s w = some cid →
      motive (.log w sid clock args true)
        (updChan { s with accepted := s.accepted ++ [(w, .event sid clock args)] } cid
          (fun c => { c with entries := c.entries ++ [.event sid clock args] })))
    (logReplace : ∀ w sid clock args cid old, lookupWriter s w = some cid → s.channels.find? (·.cid == cid) = some old →
      motive (.log w sid clock args false)
        (updChan (setWriter (updChan (newChan { s with accepted := s.accepted ++ [(w, .event sid clock args)] } w
            { id := old.wp.id, name := old.wp.name, batchSize := 0 }).1 cid (fun c => { c with closed := true, sealed := true }))
          w (some s.nextCid)) s.nextCid (fun c => { c with entries := c.entries ++ [.event sid clock args] })))
    (destroyWriter : ∀ w cid, lookupWriter s w = some cid →
      motive (.destroyWriter w) (setWriter (updChan s cid (fun c => { c with closed := true })) w none))
    (setClockSync : ∀ cs,
      motive (.setClockSync cs) { s with clockSyncs := s.clockSyncs ++ [.clockSync cs], consumeClockSync := true })
    (consume : ∀ polls,
      motive (.consume polls)
        { s with consumeClockSync := false, sourcesConsumed := s.sources.length,
                 channels := (pollAll s.channels polls).chans,
                 totalConsumed := s.totalConsumed + (consume s polls).2.bytesConsumed,
                 delivered := s.delivered ++ (pollAll s.channels polls).delivered,
                 lost := s.lost ++ (pollAll s.channels polls).lost,
                 outputs := s.outputs.dropLast ++ [s.outputs.getLast?.getD [] ++ consumeWrites s polls] })
    (rotate :
      motive .rotate
        { s with outputs := s.outputs ++ [[s.clockSyncs, s.sources.take s.sourcesConsumed]],
                 totalConsumed := s.totalConsumed + (reconsumeMetadata s).2.bytesConsumed }) :
    motive op s' := by
  cases op with
  | createWriter w id name =>
    have hite : ∀ (b : Prop) [Decidable b] (s : Session) (cid : Nat) (f : Chan → Chan),
        (if b then updChan s cid f else s) = updChan s cid (fun c => if b then f c else c) :=
      fun b _ s cid f => by split <;> simp [updChan]
    cases h
    simp only [hite]
    exact createWriter w id name
  | setWriterId w id =>
    obtain ⟨cid, hl, rfl⟩ := Option.map_eq_some_iff.mp h
    exact setWriterId w id cid hl
  | setWriterName w name =>
    obtain ⟨cid, hl, rfl⟩ := Option.map_eq_some_iff.mp h
    exact setWriterName w name cid hl
  | addSource src => cases h; exact addSource src
  | log w sid clock args fits =>
    simp only [step] at h
    split at h
    · cases h
    · rename_i cid hl
      cases fits with
      | true => cases h; exact logFits w sid clock args cid hl
      | false =>
        simp only [Bool.false_eq_true, if_false] at h
        split at h
        · cases h
        · rename_i old ho; cases h; exact logReplace w sid clock args cid old hl ho
  | destroyWriter w =>
    obtain ⟨cid, hl, rfl⟩ := Option.map_eq_some_iff.mp h
    exact destroyWriter w cid hl
  | setClockSync cs => cases h; exact setClockSync cs
  | consume polls => cases h; rw [consume_fst]; exact consume polls
  | rotate =>
    cases h
    rw [reconsumeMetadata_fst]
    simpa [reconsumeMetadata] using rotate

/-- the body of `updChan` -/
def upd (cid : Nat) (f : Chan → Chan) (c : Chan) : Chan := if c.cid == cid then f c else c

theorem updChan_channels (s : Session) (cid : Nat) (f : Chan → Chan) :
    (updChan s cid f).channels = s.channels.map (upd cid f) := rfl

theorem upd_of_ne (cid : Nat) (f : Chan → Chan) (c : Chan) (h : c.cid ≠ cid) : upd cid f c = c := by
  simp [upd, h]

theorem upd_of_eq (cid : Nat) (f : Chan → Chan) (c : Chan) (h : c.cid = cid) : upd cid f c = f c := by
  simp [upd, h]

theorem upd_keeps (cid : Nat) (f : Chan → Chan) (P : Chan → Chan → Prop) (hrefl : ∀ c, P c c) (hf : ∀ c, P c (f c)) :
    ∀ c, P c (upd cid f c) := by
  intro c
  unfold upd
  split
  · exact hf c
  · exact hrefl c

theorem forall_mem_map_upd {Q : Chan → Prop} {L : List Chan} {cid : Nat} {f : Chan → Chan}
    (hf : ∀ c, Q c → Q (f c)) (h : ∀ c ∈ L, Q c) : ∀ c ∈ L.map (upd cid f), Q c :=
  List.forall_mem_map.mpr fun c hc => upd_keeps cid f (fun c c' => Q c → Q c') (fun _ => id) hf c (h c hc)

theorem map_upd_decomp (pre post : List Chan) (c : Chan) (cid : Nat) (f : Chan → Chan)
    (h1 : ∀ x ∈ pre, x.cid ≠ cid) (h2 : ∀ x ∈ post, x.cid ≠ cid) (hc : c.cid = cid) :
    (pre ++ c :: post).map (upd cid f) = pre ++ f c :: post := by
  have hnone : ∀ L : List Chan, (∀ x ∈ L, x.cid ≠ cid) → L.map (upd cid f) = L := fun L h =>
    (List.map_congr_left fun x hx => upd_of_ne cid f x (h x hx)).trans (List.map_id' L)
  rw [List.map_append, List.map_cons, hnone pre h1, hnone post h2, upd_of_eq cid f c hc]

/-- the entries of the newest output, in the order they were written -/
def curEntries (s : Session) : List Entry := ((s.outputs.getLast?).getD []).flatten

theorem flatten_emit {α} (l : List (List α)) (x : List α) :
    (l.dropLast ++ [l.getLast?.getD [] ++ x]).flatten = l.flatten ++ x := by
  rcases List.eq_nil_or_concat l with h | ⟨older, cur, h⟩ <;> simp [h]

structure ScanSt where
  defined : List Nat := []
  hasCS : Bool := false
deriving Repr, DecidableEq

/-- one entry of an output: sources define their id, clock syncs are noted, an event requires its
    source id to be defined and a clock sync to have been seen -/
def scanStep (st : ScanSt) : Entry → Option ScanSt
  | .source src => some { st with defined := src.id :: st.defined }
  | .clockSync _ => some { st with hasCS := true }
  | .writerProp _ => some st
  | .event sid _ _ => if sid ∈ st.defined ∧ st.hasCS = true then some st else none

def scan : ScanSt → List Entry → Option ScanSt
  | st, [] => some st
  | st, e :: es => match scanStep st e with
    | some st' => scan st' es
    | none => none

/-- an output is self-contained: every event is preceded, within the output, by the source entry
    with its id and by a clock sync -/
def SelfContained (l : List Entry) : Prop := (scan {} l).isSome = true

theorem scan_append (st : ScanSt) (a b : List Entry) :
    scan st (a ++ b) = (scan st a).bind (fun st' => scan st' b) := by
  induction a generalizing st with
  | nil => rfl
  | cons e es ih =>
    simp only [List.cons_append, scan]
    cases scanStep st e with
    | none => rfl
    | some st' => exact ih st'

def noEvents (l : List Entry) : Prop := ∀ e ∈ l, e.isEvent = false

def srcIds (l : List Entry) : List Nat := l.filterMap fun e => match e with | .source src => some src.id | _ => none
def hasCSIn (l : List Entry) : Bool := l.any fun e => match e with | .clockSync _ => true | _ => false

theorem scan_some {st st' : ScanSt} {l : List Entry} (h : scan st l = some st') :
    st' = { defined := (srcIds l).reverse ++ st.defined, hasCS := st.hasCS || hasCSIn l } := by
  induction l generalizing st with
  | nil => cases h; simp [srcIds, hasCSIn]
  | cons e es ih =>
    simp only [scan] at h
    split at h
    · rename_i st1 hs
      rw [ih h]
      cases e <;> simp only [scanStep] at hs
      case event => split at hs <;> cases hs; simp [srcIds, hasCSIn]
      all_goals cases hs; simp [srcIds, hasCSIn]
    · cases h

theorem selfContained_spec (l : List Entry) (h : SelfContained l)
    (pre post : List Entry) (sid clock : Nat) (args : Bytes) (hl : l = pre ++ Entry.event sid clock args :: post) :
    (∃ src, Entry.source src ∈ pre ∧ src.id = sid) ∧ (∃ cs, Entry.clockSync cs ∈ pre) := by
  subst hl
  obtain ⟨_, h⟩ := Option.isSome_iff_exists.mp h
  rw [scan_append] at h
  -- the scan got past `pre`, and then past the event: its state there is what `pre` defines
  obtain ⟨st, hp, h⟩ := Option.bind_eq_some_iff.mp h
  rw [scan, scanStep] at h
  by_cases hc : sid ∈ st.defined ∧ st.hasCS = true
  · rw [scan_some hp] at hc
    simp only [List.append_nil, List.mem_reverse, Bool.false_or] at hc
    obtain ⟨e, he, hm⟩ := List.mem_filterMap.mp hc.1
    obtain ⟨e', he', hm'⟩ := List.any_eq_true.mp hc.2
    cases e <;> cases hm
    cases e' <;> cases hm'
    exact ⟨⟨_, he, rfl⟩, _, he'⟩
  · simp [hc] at h

theorem scan_noEvents (st : ScanSt) (l : List Entry) (h : noEvents l) :
    scan st l = some { defined := (srcIds l).reverse ++ st.defined, hasCS := st.hasCS || hasCSIn l } := by
  have hsome : ∀ st, (scan st l).isSome = true := by
    induction l with
    | nil => exact fun _ => rfl
    | cons e es ih =>
      obtain ⟨he, hes⟩ := List.forall_mem_cons.mp h
      cases e with
      | event _ _ _ => cases he
      | _ => exact fun st => ih hes _
  obtain ⟨st', hs⟩ := Option.isSome_iff_exists.mp (hsome st)
  rw [hs, scan_some hs]

theorem scan_events (st : ScanSt) (l : List Entry) (hcs : st.hasCS = true)
    (h : ∀ e ∈ l, match e with
      | .event sid _ _ => sid ∈ st.defined
      | .writerProp _ => True
      | _ => False) :
    scan st l = some st := by
  induction l with
  | nil => rfl
  | cons e es ih =>
    obtain ⟨he, hes⟩ := List.forall_mem_cons.mp h
    cases e with
    | event a b c => simp [scan, scanStep, show a ∈ st.defined from he, hcs, ih hes]
    | writerProp wp => exact ih hes
    | source src => exact he.elim
    | clockSync cs => exact he.elim

theorem selfContained_meta_events (M C : List Entry) (hne : noEvents M) (hcs : hasCSIn M = true)
    (hC : ∀ e ∈ C, ∃ sid clock args, e = Entry.event sid clock args ∧ sid ∈ srcIds M) :
    SelfContained (M ++ C) := by
  unfold SelfContained
  rw [scan_append, scan_noEvents {} M hne, Option.bind_some, scan_events _ _ (by simp [hcs])]
  · rfl
  · intro e he
    obtain ⟨sid, clock, args, rfl, h⟩ := hC e he
    simpa using h

def isSource : Entry → Bool
  | .source _ => true
  | _ => false

theorem isSource_iff {e : Entry} : isSource e = true ↔ ∃ src, e = .source src := by
  cases e <;> simp [isSource]

theorem noEvents_of_sources {l : List Entry} (h : ∀ e ∈ l, isSource e = true) : noEvents l := by
  intro e he
  obtain ⟨src, rfl⟩ := isSource_iff.mp (h e he)
  rfl

theorem noEvents_of_css {l : List Entry} (h : ∀ e ∈ l, ∃ cs, e = .clockSync cs) : noEvents l := by
  intro e he
  obtain ⟨cs, rfl⟩ := h e he
  rfl

theorem filter_isEvent_noEvents {l : List Entry} (h : noEvents l) : l.filter Entry.isEvent = [] := by
  rw [List.filter_eq_nil_iff]
  intro e he
  simp [h e he]

theorem srcIds_append (a b : List Entry) : srcIds (a ++ b) = srcIds a ++ srcIds b := by
  simp [srcIds, List.filterMap_append]

theorem srcIds_take_drop (l : List Entry) (n : Nat) : srcIds (l.take n) ++ srcIds (l.drop n) = srcIds l := by
  rw [← srcIds_append, List.take_append_drop]

/-- `X ++ Y` is what `consume` and `reconsumeMetadata` write first: clock syncs, then sources. -/
theorem scan_metadata (st : ScanSt) {X Y : List Entry} (hX : ∀ e ∈ X, ∃ cs, e = .clockSync cs)
    (hY : ∀ e ∈ Y, isSource e = true) :
    scan st (X ++ Y) = some { defined := (srcIds Y).reverse ++ st.defined, hasCS := st.hasCS || !X.isEmpty } ∧
    (X ++ Y).filter isSource = Y := by
  -- each clock sync of `X` only sets the flag; what is left is the event-free `Y`
  induction X generalizing st with
  | nil =>
    have hcs : hasCSIn Y = false := List.any_eq_false.mpr fun e he => by
      obtain ⟨src, rfl⟩ := isSource_iff.mp (hY e he)
      simp
    simp [scan_noEvents st Y (noEvents_of_sources hY), hcs, List.filter_eq_self.mpr hY]
  | cons e es ih =>
    obtain ⟨cs, rfl⟩ := hX e List.mem_cons_self
    simpa [scan, scanStep, isSource] using ih { st with hasCS := true } fun e he => hX e (List.mem_cons_of_mem _ he)

theorem writeBytes_append (a b : Write) : writeBytes (a ++ b) = writeBytes a ++ writeBytes b := by
  simp only [writeBytes, frames, List.map_append, List.flatten_append]

theorem pieces_flatten (batch : List Entry) (k : Nat) : (pieces batch k).flatten = batch := by
  unfold pieces
  simp only
  split <;> simp

theorem pollChan_eq (c : Chan) (p : Poll) :
    pollChan c p =
      { writes := if (c.entries.take (pollN c p)).isEmpty then [] else
          [.writerProp { c.wp with batchSize := (writeBytes (c.entries.take (pollN c p))).length }] ::
            pieces (c.entries.take (pollN c p)) p.split,
        bytes := if (c.entries.take (pollN c p)).isEmpty then 0 else
          (writeBytes [.writerProp { c.wp with batchSize := (writeBytes (c.entries.take (pollN c p))).length }]).length +
            (writeBytes (c.entries.take (pollN c p))).length,
        chan := { c with
          wp := if (c.entries.take (pollN c p)).isEmpty then c.wp else
            { c.wp with batchSize := (writeBytes (c.entries.take (pollN c p))).length },
          entries := c.entries.drop (pollN c p) },
        removed := p.sawClosed && c.closed,
        batch := c.entries.take (pollN c p),
        dropped := if (p.sawClosed && c.closed) = true then c.entries.drop (pollN c p) else [] } := by
  unfold pollChan
  generalize pollN c p = n
  by_cases h : (c.entries.take n).isEmpty = true
  · have hd : c.entries.drop n = c.entries := by
      have := List.take_append_drop n c.entries
      rwa [List.isEmpty_iff.mp h] at this
    simp [List.isEmpty_iff.mp h, hd]
  · simp [h]

theorem pollChan_writes_flat (c : Chan) (p : Poll) :
    (pollChan c p).writes.flatten =
      if (c.entries.take (pollN c p)).isEmpty then []
      else Entry.writerProp { c.wp with batchSize := (writeBytes (c.entries.take (pollN c p))).length }
            :: c.entries.take (pollN c p) := by
  rw [pollChan_eq]
  split <;> simp [pieces_flatten]

/-- each channel with the poll `pollAll` uses for it: positional, `⟨false, 0, 0⟩` when the list is too short -/
def polled : List Chan → List Poll → List (Chan × Poll)
  | [], _ => []
  | c :: cs, ps => (c, ps.headD ⟨false, 0, 0⟩) :: polled cs ps.tail

theorem polled_fst (L : List Chan) (P : List Poll) : (polled L P).map (·.1) = L := by
  induction L generalizing P with
  | nil => rfl
  | cons c cs ih => simp [polled, ih]

theorem mem_polled {L : List Chan} {P : List Poll} {x : Chan × Poll} (h : x ∈ polled L P) : x.1 ∈ L := by
  rw [← polled_fst L P]; exact List.mem_map_of_mem h

theorem pollAll_eq (L : List Chan) (P : List Poll) : pollAll L P =
    { writes := (polled L P).flatMap fun x => (pollChan x.1 x.2).writes,
      bytes := ((polled L P).map fun x => (pollChan x.1 x.2).bytes).sum,
      chans := (polled L P).filterMap fun x => if (pollChan x.1 x.2).removed then none else some (pollChan x.1 x.2).chan,
      removed := (polled L P).countP fun x => (pollChan x.1 x.2).removed,
      delivered := (polled L P).flatMap fun x => (pollChan x.1 x.2).batch.map fun e => (x.1.owner, e),
      lost := (polled L P).flatMap fun x => (pollChan x.1 x.2).dropped.map fun e => (x.1.owner, e) } := by
  induction L generalizing P with
  | nil => rfl
  | cons c cs ih =>
    simp only [pollAll, ih, polled, List.flatMap_cons, List.map_cons, List.sum_cons, List.filterMap_cons, List.countP_cons]
    cases (pollChan c (P.headD ⟨false, 0, 0⟩)).removed <;> simp [Nat.add_comm]

theorem mem_pollAll_chans {L : List Chan} {P : List Poll} {c' : Chan} : c' ∈ (pollAll L P).chans ↔
    ∃ x ∈ polled L P, (pollChan x.1 x.2).removed = false ∧ c' = (pollChan x.1 x.2).chan := by
  simp only [pollAll_eq, List.mem_filterMap]
  refine exists_congr fun x => and_congr_right fun _ => ?_
  cases (pollChan x.1 x.2).removed <;> simp [eq_comm]

theorem pollAll_writes_mem (L : List Chan) (P : List Poll) :
    ∀ e ∈ (pollAll L P).writes.flatten,
      (∃ c ∈ L, ∃ n, e = .writerProp { c.wp with batchSize := n }) ∨ ∃ c ∈ L, e ∈ c.entries := by
  intro e he
  rw [pollAll_eq, List.flatten_eq_flatMap, List.flatMap_assoc] at he
  obtain ⟨x, hx, he⟩ := List.mem_flatMap.mp he
  rw [← List.flatten_eq_flatMap, pollChan_writes_flat] at he
  split at he
  · cases he
  · rcases List.mem_cons.mp he with h | h
    · exact .inl ⟨x.1, mem_polled hx, _, h⟩
    · exact .inr ⟨x.1, mem_polled hx, List.mem_of_mem_take h⟩

end BinlogVerif.Sess
