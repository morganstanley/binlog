import BinlogVerif.Reader.Pretty
/-
  `strBytes` of a literal evaluates: `ByteArray.toList` (a well-founded loop the kernel does not unfold)
  is the list of the underlying array, which `decide` can compute.
-/
namespace BinlogVerif.Pretty
open BinlogVerif

theorem byteArray_toList_loop (bs : ByteArray) (i : Nat) (r : List UInt8) :
    ByteArray.toList.loop bs i r = r.reverse ++ bs.data.toList.drop i := by
  fun_induction ByteArray.toList.loop bs i r with
  | case1 i r hi ih =>
    have hlen : i < bs.data.toList.length := hi
    rw [ih, List.drop_eq_getElem_cons hlen]
    simp [ByteArray.get!, getElem!_pos bs.data i hi]
  | case2 i r hi => rw [List.drop_of_length_le (Nat.le_of_not_lt hi)]; simp

theorem byteArray_toList_eq (bs : ByteArray) : bs.toList = bs.data.toList := by
  rw [ByteArray.toList, byteArray_toList_loop]; simp

theorem strBytes_eq (s : String) : strBytes s = s.toByteArray.data.toList := by
  rw [strBytes, String.toUTF8, byteArray_toList_eq]

example : strBytes "ab" = [97, 98] := by rw [strBytes_eq]; decide

end BinlogVerif.Pretty
