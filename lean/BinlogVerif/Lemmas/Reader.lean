import BinlogVerif.Reader.EventStream
namespace BinlogVerif

/-- a decoder that ignores trailing bytes -/
def Stable {α : Type} (d : Bytes → Outcome (α × Bytes)) : Prop :=
  ∀ ⦃r b : Bytes⦄ ⦃a : α⦄ (x : Bytes), d r = .ok (a, b) → d (r ++ x) = .ok (a, b ++ x)

theorem Stable.bind {α β : Type} {d : Bytes → Outcome (α × Bytes)} {f : α × Bytes → Outcome (β × Bytes)}
    (hd : Stable d) (hf : ∀ a, Stable fun r => f (a, r)) : Stable fun r => d r >>= f := by
  intro r b c x h
  obtain ⟨⟨a, r1⟩, e1, h⟩ := bind_ok_elim h
  simp only [hd x e1]
  exact hf a x h

theorem Stable.pure {α : Type} {a : α} : Stable fun r => (Pure.pure (a, r) : Outcome (α × Bytes)) := by
  rintro r b c x ⟨⟩
  rfl

theorem takeN_stable (n : Nat) : Stable (takeN n) := by
  intro r b a x h
  obtain ⟨rfl, hl⟩ := takeN_ok_iff.mp h
  rw [List.append_assoc]
  exact takeN_append n a _ hl

theorem readU_stable (n : Nat) : Stable (readU n) := by
  intro r b v x h
  obtain ⟨rfl, hv⟩ := readU_ok_iff.mp h
  rw [List.append_assoc]
  exact readU_le_append n v _ hv

/- The `.bind … fun _ =>` chains below, and the `_noTrap` chains of NoTrapBase, typecheck against the decoder itself:
   its `do` block is by definition this nesting of `>>=`, one bind per field. -/
theorem decStr_stable : Stable decStr := .bind (readU_stable 4) fun n => takeN_stable n

theorem decSource_stable : Stable decSource :=
  .bind (readU_stable 8) fun _ => .bind (readU_stable 2) fun _ => .bind decStr_stable fun _ =>
  .bind decStr_stable fun _ => .bind decStr_stable fun _ => .bind (readU_stable 8) fun _ =>
  .bind decStr_stable fun _ => .bind decStr_stable fun _ => .pure

theorem decWriterProp_stable : Stable decWriterProp :=
  .bind (readU_stable 8) fun _ => .bind decStr_stable fun _ => .bind (readU_stable 8) fun _ => .pure

theorem decClockSync_stable : Stable decClockSync :=
  .bind (readU_stable 8) fun _ => .bind (readU_stable 8) fun _ => .bind (readU_stable 8) fun _ =>
  .bind (readU_stable 4) fun _ => .bind decStr_stable fun _ => .pure

theorem decSource_id_lt {r b : Bytes} {s : EventSource} (h : decSource r = .ok (s, b)) :
    s.id < 2^64 := by
  unfold decSource at h
  obtain ⟨⟨id, _⟩, e1, h⟩ := bind_ok_elim h
  iterate 7 obtain ⟨_, -, h⟩ := bind_ok_elim h
  cases h
  exact (readU_ok_iff.mp e1).2

theorem readAll_append (st : ReaderState) (a b : List Bytes) (h : (runState st a).2 = false) :
    readAll st (a ++ b) = readAll st a ++ readAll (runState st a).1 b := by
  -- along `runState`, though the goal is about `readAll`: its cases bring `st'` and the `stepEntry` equation `hp`
  fun_induction runState st a with
  | case1 st => rfl
  | case2 st p ps hp => cases h
  | case3 st p ps items st' hp ih => simp only [List.cons_append, readAll, hp, ih h, List.append_assoc]

theorem readAll_append_stopped (st : ReaderState) (a b : List Bytes) (h : (runState st a).2 = true) :
    readAll st (a ++ b) = readAll st a := by
  fun_induction runState st a with
  | case1 st => cases h
  | case2 st p ps hp => simp only [List.cons_append, readAll, hp]
  | case3 st p ps items st' hp ih => simp only [List.cons_append, readAll, hp, ih h]

theorem runState_append (st : ReaderState) (a b : List Bytes) (h : (runState st a).2 = false) :
    runState st (a ++ b) = runState (runState st a).1 b := by
  fun_induction runState st a with
  | case1 st => rfl
  | case2 st p ps hp => cases h
  | case3 st p ps items st' hp ih => simp only [List.cons_append, runState, hp, ih h]

theorem stepEntry_of_error {st : ReaderState} {p : Bytes} {e : Err}
    (h : (processEntry st p).1 = .error e) : stepEntry st p = some ([.error e], st) := by
  revert h
  unfold stepEntry processEntry
  cases processEntryCore st p <;> rintro ⟨⟩
  rfl

end BinlogVerif
