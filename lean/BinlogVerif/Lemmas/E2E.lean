import BinlogVerif.Lemmas.Classify
import BinlogVerif.Props.C11
import BinlogVerif.Reader.Bread
/-
  Reading back what the session wrote: the reference reader on STRUCTURED entries (`expectedItems`) and
  the proof that `bread`'s item stream over the written bytes is exactly that (`read_back`).
-/
namespace BinlogVerif.E2E
open BinlogVerif BinlogVerif.Sess

/-- what reading a list of structured entries yields: each event entry becomes an item carrying the LATEST
    source defined with its id before it (`srcs`: the definitions so far, newest first), the latest writer
    properties and the latest clock sync; an event whose id has no definition before it is an
    `invalidSource` error item -/
def expectedItems (srcs : List EventSource) (wp : WriterProp) (cs : ClockSync) : List Entry → List Item
  | [] => []
  | .source s :: es => expectedItems (s :: srcs) wp cs es
  | .writerProp w :: es => expectedItems srcs w cs es
  | .clockSync c :: es => expectedItems srcs wp c es
  | .event sid clock args :: es =>
    (match srcs.find? (fun s => s.id == sid) with
     | some src => Item.event ⟨src, clock, args⟩ wp cs
     | none => Item.error .invalidSource) :: expectedItems srcs wp cs es

/-- representability of an entry: every field fits its machine type, the payload fits the 32-bit size
    prefix, and the source id of an event is not a special tag (top bit clear) -/
def EntryWf : Entry → Prop
  | .clockSync cs => cs.Wf ∧ PayloadOk (clockSyncPayload cs)
  | .source s => s.Wf ∧ PayloadOk (sourcePayload s)
  | .writerProp w => w.Wf ∧ PayloadOk (writerPropPayload w)
  | .event sid clock args => sid < 2^63 ∧ clock < 2^64 ∧ PayloadOk (eventPayload sid clock args)

theorem EntryWf.payloadOk {e : Entry} (h : EntryWf e) : PayloadOk e.payload := by
  cases e with
  | event _ _ _ => exact h.2.2
  | _ => exact h.2

theorem classify_payload {e : Entry} (h : EntryWf e) :
    classify e.payload = match e with
      | .clockSync c => .clockSync c
      | .source s => .source s
      | .writerProp w => .writerProp w
      | .event sid clock args => .event sid (le 8 clock ++ args) := by
  obtain ⟨s1, s2, s3, n12, n13, n23⟩ := special_tags
  cases e with
  | clockSync c =>
    have hd := decClockSync_encClockSync c [] h.1
    rw [List.append_nil] at hd
    rw [Entry.payload, clockSyncPayload, classify_tagged _ (by decide)]
    simp [s3, n13.symm, n23.symm, hd]
  | source s =>
    have hd := decSource_encSource s [] h.1
    rw [List.append_nil] at hd
    rw [Entry.payload, sourcePayload, classify_tagged _ (by decide)]
    simp [s1, hd]
  | writerProp w =>
    have hd := decWriterProp_encWriterProp w [] h.1
    rw [List.append_nil] at hd
    rw [Entry.payload, writerPropPayload, classify_tagged _ (by decide)]
    simp [s2, n12.symm, hd]
  | event sid clock args =>
    have hsp : ¬ isSpecial sid = true := by simp [isSpecial]; exact h.1
    rw [Entry.payload, eventPayload, List.append_assoc, classify_tagged _ (Nat.lt_trans h.1 (by decide)), if_neg hsp]

theorem readAll_expected (es : List Entry) (hwf : ∀ e ∈ es, EntryWf e) (st : ReaderState) (srcs : List EventSource)
    (hinv : SegMap.Inv st.sources) (hfind : ∀ id, id < 2^64 → st.sources.find id = srcs.find? (fun s => s.id == id)) :
    readAll st (es.map Entry.payload) = expectedItems srcs st.writerProp st.clockSync es := by
  induction es generalizing st srcs with
  | nil => rfl
  | cons e es ih =>
    have he := hwf e (by simp)
    have hes : ∀ x ∈ es, EntryWf x := fun x hx => hwf x (by simp [hx])
    simp only [List.map_cons, readAll, stepEntry, processEntry_eq_spec, classify_payload he]
    cases e with
    | source s =>
      refine ih hes _ (s :: srcs) (SegMap.inv_emplace _ _ _ hinv he.1.1) fun id hid => ?_
      rw [SegMap.find_emplace _ _ _ _ hinv he.1.1 hid, List.find?_cons, hfind id hid]
      by_cases hi : id = s.id
      · subst hi; simp
      · have : (s.id == id) = false := by simp; exact fun e => hi e.symm
        rw [if_neg hi, this]
    | writerProp w => exact ih hes _ _ hinv hfind
    | clockSync c => exact ih hes _ _ hinv hfind
    | event sid clock args =>
      have hcl : clock < 256 ^ 8 := by simpa using he.2.1
      simp only [processSpec, expectedItems, hfind sid (Nat.lt_trans he.1 (by decide)), readU_le_append 8 clock args hcl,
        ← ih hes st srcs hinv hfind]
      cases srcs.find? (fun s => s.id == sid) <;> rfl

theorem read_back (es : List Entry) (hwf : ∀ e ∈ es, EntryWf e) :
    Bread.itemsOf (writeBytes es) = expectedItems [] {} {} es := by
  unfold Bread.itemsOf
  rw [C11.c11_whole_entries es fun e he => (hwf e he).payloadOk]
  simp only [readAll_expected es hwf {} [] SegMap.inv_empty fun id _ => by simp [SegMap.find_empty]]
  split <;> rfl

end BinlogVerif.E2E
