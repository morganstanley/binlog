import BinlogVerif.Lemmas.Session
/- The metadata invariant.  The work is in `consume` and `rotate`, which both write a block of metadata (`scan_metadata`). -/
namespace BinlogVerif.Sess
open BinlogVerif

structure MetaInv (s : Session) : Prop where
  outs_ne : s.outputs ≠ []
  next_pos : 1 ≤ s.nextSourceId
  srcs_are : ∀ e ∈ s.sources, isSource e = true
  src_ids : srcIds s.sources = List.range' 1 (s.nextSourceId - 1)
  consumed_le : s.sourcesConsumed ≤ s.sources.length
  css_are : ∀ e ∈ s.clockSyncs, ∃ cs, e = .clockSync cs
  css_ne : s.clockSyncs ≠ []
  chans : ∀ c ∈ s.channels, ∀ e ∈ c.entries, ∃ sid clock args, e = .event sid clock args ∧ 1 ≤ sid ∧ sid < s.nextSourceId
  older : ∀ o ∈ s.outputs.dropLast, SelfContained o.flatten
  -- third conjunct: the current output lacks a clock sync only while one is due, and then the next `consume` writes it first
  cur : ∃ st, scan {} (curEntries s) = some st ∧
        (∀ id, id ∈ st.defined ↔ id ∈ srcIds (s.sources.take s.sourcesConsumed)) ∧
        (s.consumeClockSync = false → st.hasCS = true)
  -- once: the current output holds each consumed source once and no other (C03, `c03_each_source_once`)
  once : (curEntries s).filter isSource = s.sources.take s.sourcesConsumed

theorem mem_srcIds_range {s : Session} (h : MetaInv s) (sid : Nat) (h1 : 1 ≤ sid) (h2 : sid < s.nextSourceId) :
    sid ∈ srcIds s.sources := by
  rw [h.src_ids, List.mem_range'_1]
  have := h.next_pos
  omega

theorem metaInv_init (cs : ClockSync) : MetaInv (init cs) where
  outs_ne := List.cons_ne_nil _ _
  next_pos := Nat.le_refl 1
  srcs_are := fun _ he => nomatch he
  src_ids := rfl
  consumed_le := Nat.le_refl 0
  css_are := fun _ he => ⟨cs, List.mem_singleton.mp he⟩
  css_ne := List.cons_ne_nil _ _
  chans := fun _ hc => nomatch hc
  older := fun _ ho => nomatch ho
  cur := ⟨{}, rfl, fun _ => Iff.rfl, fun h => nomatch h⟩
  once := rfl

/-- an event whose source id `addEventSource` has returned: what `MetaInv.chans` says of every queued entry -/
def EventOk (next : Nat) (e : Entry) : Prop := ∃ sid clock args, e = .event sid clock args ∧ 1 ≤ sid ∧ sid < next

def ChanOk (next : Nat) (c : Chan) : Prop := ∀ e ∈ c.entries, EventOk next e

/-- The writers' operations write only `channels`, `nextCid`, `writerChan` and `accepted`, of which the
    invariant reads the channels' entries. -/
theorem MetaInv.writers {s : Session} (h : MetaInv s) {L : List Chan} {n : Nat} {wc : List (Nat × Nat)}
    {acc : List (Nat × Entry)} (hL : ∀ c ∈ L, ChanOk s.nextSourceId c) :
    MetaInv { s with channels := L, nextCid := n, writerChan := wc, accepted := acc } :=
  ⟨h.outs_ne, h.next_pos, h.srcs_are, h.src_ids, h.consumed_le, h.css_are, h.css_ne, hL, h.older, h.cur, h.once⟩

/-- `consume` appends to the current output a metadata block (the clock syncs if due, the sources not yet consumed), then
    what polling yields: writer descriptions and events, whose source ids are all defined by now. -/
theorem metaInv_consume (s : Session) (polls : List Poll) (h : MetaInv s) : MetaInv (consume s polls).1 := by
  rw [consume_fst]
  obtain ⟨st0, hscan0, hdef0, hcs0⟩ := h.cur
  have hX : ∀ e ∈ (if s.consumeClockSync then s.clockSyncs else []), ∃ cs, e = Entry.clockSync cs := by
    split
    · exact h.css_are
    · simp
  obtain ⟨hscanM, honceM⟩ := scan_metadata st0 hX fun e he => h.srcs_are e (List.mem_of_mem_drop he)
  have hcs : (st0.hasCS || !(if s.consumeClockSync then s.clockSyncs else []).isEmpty) = true := by
    cases hc : s.consumeClockSync with
    | true => simp [h.css_ne]
    | false => simp [hcs0 hc]
  have hdef : ∀ id, id ∈ (srcIds (s.sources.drop s.sourcesConsumed)).reverse ++ st0.defined ↔ id ∈ srcIds s.sources := by
    intro id
    rw [List.mem_append, List.mem_reverse, hdef0 id, ← srcIds_take_drop s.sources s.sourcesConsumed, List.mem_append]
    exact Or.comm
  rw [hcs] at hscanM
  have hC : ∀ e ∈ (pollAll s.channels polls).writes.flatten, match e with
      | .event sid _ _ => sid ∈ (srcIds (s.sources.drop s.sourcesConsumed)).reverse ++ st0.defined
      | .writerProp _ => True
      | _ => False := fun e he => by
    rcases pollAll_writes_mem s.channels polls e he with ⟨_, _, _, rfl⟩ | ⟨c, hc, hm⟩
    · trivial
    · obtain ⟨sid, clock, args, rfl, h1, h2⟩ := h.chans c hc e hm
      exact (hdef sid).mpr (mem_srcIds_range h sid h1 h2)
  have hcur : ∀ s1 : Session, s1.outputs = s.outputs.dropLast ++ [s.outputs.getLast?.getD [] ++ consumeWrites s polls] →
      curEntries s1 = curEntries s ++ (((if s.consumeClockSync then s.clockSyncs else []) ++
        s.sources.drop s.sourcesConsumed) ++ (pollAll s.channels polls).writes.flatten) :=
    fun s1 h1 => by simp [curEntries, h1, consumeWrites_flatten]
  refine ⟨by simp, h.next_pos, h.srcs_are, h.src_ids, Nat.le_refl _, h.css_are, h.css_ne, ?_,
    by simpa using h.older,
    ⟨{ defined := (srcIds (s.sources.drop s.sourcesConsumed)).reverse ++ st0.defined, hasCS := true }, ?_,
      by simpa using hdef, fun _ => rfl⟩, ?_⟩
  · intro c hc e he
    obtain ⟨x, hx, _, rfl⟩ := mem_pollAll_chans.mp hc
    rw [pollChan_eq] at he
    exact h.chans x.1 (mem_polled hx) e (List.mem_of_mem_drop he)
  · rw [hcur _ rfl, scan_append, hscan0, Option.bind_some, scan_append, hscanM, Option.bind_some]
    exact scan_events _ _ rfl hC
  · have hnone : (pollAll s.channels polls).writes.flatten.filter isSource = [] :=
      List.filter_eq_nil_iff.mpr fun e he => by
        have := hC e he
        cases e with
        | event _ _ _ | writerProp _ => exact Bool.false_ne_true
        | clockSync _ | source _ => exact this.elim
    rw [hcur _ rfl, List.filter_append, List.filter_append, h.once, honceM, hnone]
    simp

theorem MetaInv.selfContained {s : Session} (h : MetaInv s) : ∀ o ∈ s.outputs, SelfContained o.flatten := by
  intro o ho
  rw [← List.dropLast_concat_getLast h.outs_ne, List.mem_append, List.mem_singleton] at ho
  rcases ho with ho | rfl
  · exact h.older o ho
  · obtain ⟨st, hst, _⟩ := h.cur
    rw [curEntries, List.getLast?_eq_some_getLast h.outs_ne] at hst
    exact Option.isSome_iff_exists.mpr ⟨st, hst⟩

theorem curEntries_rotated (s : Session) : curEntries { s with outputs := s.outputs ++ [[]] } = [] := by
  simp [curEntries]

theorem metaInv_rotate (s : Session) (h : MetaInv s) (n : Nat) :
    MetaInv { s with outputs := s.outputs ++ [[s.clockSyncs, s.sources.take s.sourcesConsumed]], totalConsumed := n } := by
  have hY : ∀ e ∈ s.sources.take s.sourcesConsumed, isSource e = true :=
    fun e he => h.srcs_are e (List.mem_of_mem_take he)
  obtain ⟨hscanM, honceM⟩ := scan_metadata {} h.css_are hY
  have hcur : ∀ s1 : Session, s1.outputs = s.outputs ++ [[s.clockSyncs, s.sources.take s.sourcesConsumed]] →
      curEntries s1 = s.clockSyncs ++ s.sources.take s.sourcesConsumed :=
    fun s1 h1 => by simp [curEntries, h1]
  refine ⟨by simp, h.next_pos, h.srcs_are, h.src_ids, h.consumed_le, h.css_are, h.css_ne, h.chans,
    by simpa using h.selfContained, ⟨_, by rw [hcur _ rfl]; exact hscanM, by simp, fun _ => by simp [h.css_ne]⟩,
    by rw [hcur _ rfl]; exact honceM⟩

theorem metaInv_step (s : Session) (op : Op) (s' : Session) (h : MetaInv s) (hok : OpOk s op)
    (hstep : step s op = some s') : MetaInv s' := by
  have happ : ∀ {sid clock : Nat} {args : Bytes}, 1 ≤ sid ∧ sid < s.nextSourceId → ∀ c, ChanOk s.nextSourceId c →
      ChanOk s.nextSourceId { c with entries := c.entries ++ [.event sid clock args] } :=
    fun hok c hc e he => (List.mem_append.mp he).elim (hc e) fun he => ⟨_, _, _, List.mem_singleton.mp he, hok⟩
  have hnew : ∀ c : Chan, c.entries = [] → ∀ c' ∈ s.channels ++ [c], ChanOk s.nextSourceId c' := fun c hc =>
    List.forall_mem_append.mpr ⟨h.chans, fun c' hc' e he => by rw [List.mem_singleton.mp hc', hc] at he; cases he⟩
  revert hok
  refine step_cases hstep ?createWriter ?setWriterId ?setWriterName ?addSource ?logFits ?logReplace ?destroyWriter
    ?setClockSync ?consume ?rotate
  case createWriter =>
    exact fun w id name _ => h.writers (forall_mem_map_upd (fun _ hc => by split <;> exact hc)
      (forall_mem_map_upd (fun _ hc => by split <;> exact hc) (hnew _ rfl)))
  case setWriterId => exact fun w id cid _ _ => h.writers (forall_mem_map_upd (fun _ hc => hc) h.chans)
  case setWriterName => exact fun w name cid _ _ => h.writers (forall_mem_map_upd (fun _ hc => hc) h.chans)
  case addSource =>
    intro src _
    have htake : List.take s.sourcesConsumed (s.sources ++ [Entry.source { src with id := s.nextSourceId }])
        = List.take s.sourcesConsumed s.sources := List.take_append_of_le_length h.consumed_le
    refine ⟨h.outs_ne, Nat.le_succ_of_le h.next_pos, ?_, ?_, Nat.le_trans h.consumed_le (by simp), h.css_are, h.css_ne,
      ?_, h.older, by simpa only [curEntries, htake] using h.cur, by simpa only [curEntries, htake] using h.once⟩
    · intro e he
      rcases List.mem_append.mp he with he | he
      · exact h.srcs_are e he
      · rw [List.mem_singleton.mp he]; rfl
    · show srcIds (s.sources ++ [Entry.source { src with id := s.nextSourceId }]) = List.range' 1 (s.nextSourceId + 1 - 1)
      obtain ⟨k, hk⟩ : ∃ k, s.nextSourceId = k + 1 := ⟨s.nextSourceId - 1, by have := h.next_pos; omega⟩
      rw [srcIds_append, h.src_ids, hk, Nat.add_sub_cancel, Nat.add_sub_cancel, List.range'_concat]
      simp [srcIds, Nat.add_comm]
    · intro c hc e he
      obtain ⟨sid, clock, args, h1, h2, h3⟩ := h.chans c hc e he
      exact ⟨sid, clock, args, h1, h2, Nat.lt_succ_of_lt h3⟩
  case logFits =>
    exact fun w sid clock args cid _ hok => h.writers (forall_mem_map_upd (happ hok) h.chans)
  case logReplace =>
    exact fun w sid clock args cid old _ _ hok => h.writers (forall_mem_map_upd (happ hok)
      (forall_mem_map_upd (fun _ hc => hc) (hnew _ rfl)))
  case destroyWriter =>
    exact fun w cid _ _ => h.writers (forall_mem_map_upd (fun _ hc => hc) h.chans)
  case setClockSync =>
    intro cs _
    obtain ⟨st, hst, hdef, _⟩ := h.cur
    refine ⟨h.outs_ne, h.next_pos, h.srcs_are, h.src_ids, h.consumed_le, ?_, by simp, h.chans, h.older,
      ⟨st, hst, hdef, by simp⟩, h.once⟩
    intro e he
    rcases List.mem_append.mp he with he | he
    · exact h.css_are e he
    · exact ⟨cs, List.mem_singleton.mp he⟩
  case consume => exact fun polls _ => consume_fst s polls ▸ metaInv_consume s polls h
  case rotate => exact fun _ => metaInv_rotate s h _

theorem metaInv_exec (cs : ClockSync) (ops : List Op) (s : Session) (hok : TraceOk (init cs) ops)
    (hrun : exec (init cs) ops = some s) : MetaInv s :=
  exec_induction MetaInv (init cs) ops s (metaInv_init cs) hok metaInv_step hrun

end BinlogVerif.Sess
