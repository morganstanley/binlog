import BinlogVerif.Generated.SrcReader
import BinlogVerif.Lemmas.SrcBridgeTactic
/- Bridge lemmas (see SrcBridgeTactic.lean). -/
namespace BinlogVerif.SrcBridge
open BinlogVerif BinlogVerif.CSem BinlogVerif.Generated

/-! ### Range.hpp -/

/-- `throw_if_overflow(s)` throws iff fewer than `s` bytes are left -/
theorem rangeThrowIfOverflow_bridge (s b e : Nat) (hbe : b ≤ e) :
    (Src.rangeThrowIfOverflow s b e).throws = decide (e - b < s) := by
  bridge_unfold [Src.rangeThrowIfOverflow]
  bridge_arith []

def viewRangeView (o : Src.rangeView.Out) := (o.effects, o.ret, o._begin)

/-- `view(size)`: checks first, then advances by exactly `size` and returns the old position -/
theorem rangeView_bridge (size b e : Nat) :
    viewRangeView (Src.rangeView size b e) = ([("throw_if_overflow", [(size : Int)])], (b : Int), ((b + size : Nat) : Int)) := by
  bridge_unfold [Src.rangeView]
  bridge_arith [viewRangeView]

/-! ### OstreamBuffer.cpp — the 1024-byte print buffer is never overrun -/

def viewReserve (o : Src.ostreamBufferReserve.Out) := (o._p, o.effects, o.ok, o.throws)

/-- after `reserve(n)` (n ≤ 1024) there is room for `n` bytes: `_p + n ≤ 1024`; the position is kept
    or, after a flush, reset to the start -/
theorem ostreamBufferReserve_bridge (n p : Nat) (hn : n ≤ 1024) (hp : p ≤ 1024) :
    viewReserve (Src.ostreamBufferReserve n p) =
      if p + n ≤ 1024 then ((p : Int), [], true, false) else (0, [("flush", [])], true, false) := by
  unfold Src.ostreamBufferReserve
  bridge_range
  bridge_unfold []
  bridge_arith [viewReserve]

theorem ostreamBufferReserve_room (n p : Nat) (hn : n ≤ 1024) (hp : p ≤ 1024) :
    0 ≤ (Src.ostreamBufferReserve n p)._p ∧ (Src.ostreamBufferReserve n p)._p + n ≤ 1024 := by
  have h := ostreamBufferReserve_bridge n p hn hp
  have h1 : (Src.ostreamBufferReserve n p)._p = (viewReserve (Src.ostreamBufferReserve n p)).1 := rfl
  rw [h1, h]
  split <;> simp <;> omega

def viewFlush (o : Src.ostreamBufferFlush.Out) := (o._p, o.effects)

/-- `flush()` hands `[0, _p)` to the stream and resets the position -/
theorem ostreamBufferFlush_bridge (p : Nat) :
    viewFlush (Src.ostreamBufferFlush p) = (0, [("_out.write", [0, (p : Int)])]) := by
  bridge_unfold [Src.ostreamBufferFlush]
  bridge_arith [viewFlush]

def viewPut (o : Src.ostreamBufferPut.Out) := (o.effects, o._p)

/-- `put(c)` reserves one byte FIRST and then stores at the position it finds afterwards, and
    advances by one: with `reserve`'s guarantee the store is inside the buffer.  (`put` is translated
    with `reserve` as an opaque call that may move `_p`; the position after `reserve` is the
    function's input `_p`.) -/
theorem ostreamBufferPut_bridge (c : Int) (p : Int) :
    viewPut (Src.ostreamBufferPut c p) = ([("reserve", [1]), ("store", [p, c])], p + 1) := by
  bridge_unfold [Src.ostreamBufferPut]
  bridge_arith [viewPut]

end BinlogVerif.SrcBridge
