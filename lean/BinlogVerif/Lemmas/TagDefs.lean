import BinlogVerif.Mser.Ty
/- Side conditions of C06. -/
namespace BinlogVerif.Mser
open BinlogVerif BinlogVerif.Tag BinlogVerif.Visit

/-- a byte that is none of `( ) < > { } [ ] / \ ` '` -/
def charOk (c : UInt8) : Bool :=
  c != 40 && c != 41 && c != 60 && c != 62 && c != 123 && c != 125 && c != 91 && c != 93
    && c != 47 && c != 92 && c != 96 && c != 39

/-- STRICT name condition: the name contains none of the bytes `( ) < > { } [ ] / \ ` '`.
    Names with balanced brackets (template-ids such as `std::pair<int,int>`, which real adapted
    structs do have) are NOT covered by the C06 proofs. -/
def NameOk (n : Bytes) : Bool := n.all charOk

/-- `0-9 A-F -` -/
def hexChar (c : UInt8) : Bool :=
  (48 ≤ c.toNat && c.toNat ≤ 57) || (65 ≤ c.toNat && c.toNat ≤ 70) || c.toNat == 45

/-- enumerator value strings: non-empty, over `0-9A-F-` -/
def HexOk (h : Bytes) : Bool := !h.isEmpty && h.all hexChar

def EnumsOk : List (Bytes × Bytes) → Bool
  | [] => true
  | (h, n) :: es => HexOk h && NameOk n && EnumsOk es

def isNull : Ty → Bool
  | .null => true
  | _ => false

/- `TyOk t`: every struct/field/enum/enumerator name is `NameOk`, every arithmetic tag char
   (leaf or enum underlying type) is one of the 13 valid ones, enumerator hex strings are `HexOk`,
   every variant has at most 255 alternatives, `null` occurs only directly as an alternative of a
   variant. -/
mutual
def TyOk : Ty → Bool
  | .arith c => (arithSize c).isSome
  | .seq e => TyOk e
  | .tup es => TyOkList es
  | .var alts => decide (alts.length ≤ 255) && TyOkAlts alts
  | .null => false
  | .enum u name ens => (arithSize u).isSome && NameOk name && EnumsOk ens && (u != 121)   -- documented grammar: the underlying type is an integer, not bool
  | .struct name fs => NameOk name && TyOkFields fs
def TyOkList : List Ty → Bool
  | [] => true
  | t :: ts => TyOk t && TyOkList ts
def TyOkAlts : List Ty → Bool
  | [] => true
  | t :: ts => (isNull t || TyOk t) && TyOkAlts ts
def TyOkFields : List (Bytes × Ty) → Bool
  | [] => true
  | (n, t) :: fs => NameOk n && TyOk t && TyOkFields fs
end

/-- `TyOk`, or the `null` alternative itself (the tag utilities handle `0` like an arithmetic) -/
def TyOkN (t : Ty) : Bool := isNull t || TyOk t

/- nesting depth: leaves 0, every bracket level +1 -/
mutual
def depth : Ty → Nat
  | .seq e => depth e + 1
  | .tup es => depthList es + 1
  | .var alts => depthList alts + 1
  | .struct _ fs => depthFields fs + 1
  | _ => 0
def depthList : List Ty → Nat
  | [] => 0
  | t :: ts => max (depth t) (depthList ts)
def depthFields : List (Bytes × Ty) → Nat
  | [] => 0
  | (_, t) :: fs => max (depth t) (depthFields fs)
end

/- names of the zero-field structs occurring in a type -/
mutual
def emptyStructNames : Ty → List Bytes
  | .seq e => emptyStructNames e
  | .tup es => emptyStructNamesList es
  | .var alts => emptyStructNamesList alts
  | .struct name fs => (if fs.isEmpty then [name] else []) ++ emptyStructNamesFields fs
  | _ => []
def emptyStructNamesList : List Ty → List Bytes
  | [] => []
  | t :: ts => emptyStructNames t ++ emptyStructNamesList ts
def emptyStructNamesFields : List (Bytes × Ty) → List Bytes
  | [] => []
  | (_, t) :: fs => emptyStructNames t ++ emptyStructNamesFields fs
end

/-- For a struct with zero fields `visit` and `singular` consult the full tag
    (`resolve_recursive_tag(full_tag, "{" + name)`), as they do for a recursive reference.
    The visitation agrees with the value only if that lookup finds nothing. -/
def EmptyStructsOk (full : Bytes) (t : Ty) : Prop :=
  ∀ n ∈ emptyStructNames t, resolveRecursiveTag full (cLBrace :: n) = []

def NoEmptyStruct (t : Ty) : Prop := emptyStructNames t = []

theorem depthList_cons (t : Ty) (ts : List Ty) : depthList (t :: ts) = max (depth t) (depthList ts) := rfl
theorem depthFields_cons (n : Bytes) (t : Ty) (fs : List (Bytes × Ty)) :
    depthFields ((n, t) :: fs) = max (depth t) (depthFields fs) := rfl

/-- one step of a member loop: the bound in the form the loops carry it (`∨ = []`: an empty loop makes no
    recursive call, so it is right at budget 0 too; the callers always have the left side) -/
theorem depthList_cons_lt {t : Ty} {ts : List Ty} {m : Nat} (hd : depthList (t :: ts) < m ∨ t :: ts = []) :
    depth t < m ∧ (depthList ts < m ∨ ts = []) := by
  rcases hd with hd | hd
  · rw [depthList_cons, Nat.max_lt] at hd; exact ⟨hd.1, .inl hd.2⟩
  · cases hd

theorem depthFields_cons_lt {n : Bytes} {t : Ty} {fs : List (Bytes × Ty)} {m : Nat}
    (hd : depthFields ((n, t) :: fs) < m ∨ (n, t) :: fs = []) :
    depth t < m ∧ (depthFields fs < m ∨ fs = []) := by
  rcases hd with hd | hd
  · rw [depthFields_cons, Nat.max_lt] at hd; exact ⟨hd.1, .inl hd.2⟩
  · cases hd

end BinlogVerif.Mser
