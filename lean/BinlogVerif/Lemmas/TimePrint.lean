import BinlogVerif.Lemmas.TimeArith
/-
  Zero padding commutes with the recursion of `decNat` (`pad_decNat`), which gives `%.9d` in eight steps; the four-digit
  year unfolds `decNat` three times; the two-digit fields and `%z` have closed forms of their own (`printTwoDigits_eq`,
  `printTimeZoneOffset_eq`); the fields printed with two digits are below 100 for every `brokenDown` time
  (`brokenDown_twoDigit`), so the assertion of `printTwoDigits` never fails (`printTime_total`).
-/
namespace BinlogVerif.Time

/-- more fuel than the number does not change the digits -/
theorem natDigits_fuel : ∀ f1 f2 n : Nat, n < f1 → n < f2 → natDigits f1 n = natDigits f2 n
  | f1 + 1, f2 + 1, n, h1, h2 => by
    simp only [natDigits]
    split
    · rfl
    · rw [natDigits_fuel f1 f2 (n / 10) (by omega) (by omega)]

theorem decNat_lt10 (n : Nat) (h : n < 10) : decNat n = [UInt8.ofNat (48 + n)] := by
  simp [decNat, natDigits, h]

theorem decNat_step (n : Nat) (h : 10 ≤ n) :
    decNat n = decNat (n / 10) ++ [UInt8.ofNat (48 + n % 10)] := by
  rw [decNat, natDigits, if_neg (Nat.not_lt.2 h), natDigits_fuel n (n / 10 + 1) (n / 10) (by omega) (by omega)]
  rfl

theorem decNat_4 (n : Nat) (h0 : 1000 ≤ n) (h1 : n ≤ 9999) : decNat n = dig4 n := by
  rw [decNat_step n (by omega), decNat_step (n / 10) (by omega), Nat.div_div_eq_div_mul,
    decNat_step (n / (10 * 10)) (by omega), Nat.div_div_eq_div_mul, decNat_lt10 _ (by omega), dig4,
    Nat.mod_eq_of_lt (show n / 1000 < 10 by omega)]
  rfl

/-- zero padding commutes with the recursion of `decNat`; below 10 the quotient `0` is printed as one more padding zero -/
theorem pad_decNat (w n : Nat) :
    List.replicate (w + 1 + 1 - (decNat n).length) (48 : UInt8) ++ decNat n =
      (List.replicate (w + 1 - (decNat (n / 10)).length) 48 ++ decNat (n / 10)) ++ [UInt8.ofNat (48 + n % 10)] := by
  by_cases h : n < 10
  · rw [decNat_lt10 n h, Nat.div_eq_of_lt h, Nat.mod_eq_of_lt h, decNat_lt10 0 (by decide)]
    exact congrArg (· ++ _) List.replicate_succ'
  · rw [decNat_step n (by omega), List.length_append, List.length_singleton, Nat.add_sub_add_right,
      List.append_assoc]

theorem fmt9d_nat (n : Nat) (h : n < 1000000000) : fmt9d (n : Int) = dig9 n := by
  have h9 : n / 100000000 < 10 := by omega
  rw [fmt9d, if_neg (by omega), Int.natAbs_natCast]
  -- eight steps of the recursion leave the leading digit
  simp only [pad_decNat, Nat.div_div_eq_div_mul, Nat.reduceMul, decNat_lt10 _ h9, dig9, Nat.mod_eq_of_lt h9,
    List.length_singleton, Nat.sub_self, List.replicate_zero, List.nil_append, List.cons_append]
  rfl

theorem printNineDigits_nat (n : Nat) (h : n < 1000000000) :
    printNineDigits (n : Int) = .ok (dig9 n) := by
  simp only [printNineDigits, fmt9d_nat n h]
  rfl

theorem printTwoDigits_eq (i : Int) (h0 : 0 ≤ i) (h1 : i < 100) :
    printTwoDigits i = .ok [chr (48 + i / 10), chr (48 + i % 10)] := by
  have e1 : Int.tmod i 10 = i % 10 := Int.tmod_eq_emod_of_nonneg h0
  have e2 : Int.tdiv (i - i % 10) 10 = i / 10 := by
    rw [Int.tdiv_eq_ediv_of_nonneg (by omega)]; omega
  simp only [printTwoDigits, h0, h1, and_self, if_true, e1, e2]

theorem chr_natCast (k : Nat) (h : k < 256) : chr (k : Int) = UInt8.ofNat k := by
  unfold chr
  congr 1
  omega

theorem printTwoDigits_nat (n : Nat) (h : n < 100) : printTwoDigits (n : Int) = .ok (dig2 n) := by
  rw [printTwoDigits_eq _ (by omega) (by omega),
    show 48 + (n : Int) / 10 = ((48 + n / 10 % 10 : Nat) : Int) by omega,
    show 48 + (n : Int) % 10 = ((48 + n % 10 : Nat) : Int) by omega,
    chr_natCast _ (by omega), chr_natCast _ (by omega)]
  rfl

/-- the guard `x < 100 ? int(x) : 0` keeps the argument inside the assertion, whatever `x` is -/
theorem printTwoDigits_clip (x : Nat) :
    printTwoDigits (if x < 100 then (x : Int) else 0) = .ok (dig2 (if x < 100 then x else 0)) := by
  split
  · exact printTwoDigits_nat x ‹_›
  · exact printTwoDigits_nat 0 (by decide)

/-- closed form on every `int`; the magnitude is taken in `unsigned` arithmetic (`|INT_MIN|` = 2³¹) -/
theorem printTimeZoneOffset_eq (s : Int) :
    printTimeZoneOffset s = .ok ((if s ≥ 0 then 43 else 45) ::
      (dig2 (if s.natAbs % 4294967296 / 3600 < 100 then s.natAbs % 4294967296 / 3600 else 0) ++
        dig2 (s.natAbs % 4294967296 / 60 % 60))) := by
  simp only [printTimeZoneOffset, printTwoDigits_clip]
  have hp : (if s ≥ 0 then (s % 4294967296).toNat
      else (4294967296 - (s % 4294967296).toNat) % 4294967296) = s.natAbs % 4294967296 := by
    -- `toNat` by its equation (slow to check otherwise)
    have e := Int.toNat_of_nonneg (Int.emod_nonneg s (by decide : (4294967296 : Int) ≠ 0))
    generalize (s % 4294967296).toNat = u at *
    split <;> omega
  rw [hp]
  clear hp
  have hp' : s.natAbs % 4294967296 < 4294967296 := Nat.mod_lt _ (by decide)
  generalize s.natAbs % 4294967296 = p at *
  have hm : (p / 60 + 4294967296 - 60 * (p / 3600) % 4294967296) % 4294967296 = p / 60 % 60 := by
    rw [show 3600 = 60 * 60 from rfl, ← Nat.div_div_eq_div_mul]
    omega
  rw [hm, if_pos (show p / 60 % 60 < 100 by omega)]
  rfl

theorem printTimeZoneOffset_total (s : Int) : ∃ h m : Nat,
    printTimeZoneOffset s = .ok ((if s ≥ 0 then 43 else 45) :: (dig2 h ++ dig2 m)) :=
  ⟨_, _, printTimeZoneOffset_eq s⟩

theorem printTimeZoneOffset_small (s : Int) (h0 : -360000 < s) (h1 : s < 360000) :
    printTimeZoneOffset s = .ok ((if s ≥ 0 then 43 else 45) ::
      (dig2 (s.natAbs / 3600) ++ dig2 (s.natAbs / 60 % 60))) := by
  rw [printTimeZoneOffset_eq, Nat.mod_eq_of_lt (by omega), if_pos (show s.natAbs / 3600 < 100 by omega)]

/-- `%y`: `((tm_year % 100) + 100) % 100` with truncating `%` is the floor remainder -/
theorem printTwoDigits_yy (t : Int) :
    printTwoDigits (Int.tmod (Int.tmod t 100 + 100) 100) = .ok (dig2 (t % 100).toNat) := by
  have := Int.lt_tmod_of_pos t (by decide : (0 : Int) < 100)
  rw [Int.tmod_eq_emod_of_nonneg (by omega), Int.add_emod_right, Int.tmod_def, Int.sub_mul_emod_self_left]
  have := printTwoDigits_nat (t % 100).toNat (by omega)
  rwa [Int.toNat_of_nonneg (by omega)] at this

/-- `%Y` and `%y` for a four-digit year: `tm_year = year - 1900` does not wrap -/
theorem printTimeField_year (b : BDT) (tz : Int) (name : Bytes) (h0 : 0 ≤ b.year) (h1 : b.year ≤ 9999) :
    printTimeField 'Y' b tz name = .ok (decInt b.year) ∧
    printTimeField 'y' b tz name = .ok (dig2 (b.year % 100).toNat) := by
  simp only [printTimeField]
  rw [wrap32_id (b.year - 1900) (by omega), wrap32_id _ (by omega), printTwoDigits_yy, Int.sub_add_cancel,
    show (b.year - 1900) % 100 = b.year % 100 by omega]
  exact ⟨rfl, rfl⟩

/-- fields small enough for `printTwoDigits` -/
def BDT.TwoDigit (b : BDT) : Prop :=
  b.mon < 100 ∧ b.mday < 100 ∧ b.hour < 100 ∧ b.min < 100 ∧ b.sec < 100

theorem gmtime_twoDigit (tt : Int) : (gmtime tt).TwoDigit := by
  obtain ⟨⟨_, _, _, d⟩, h, m, s, _⟩ := gmtime_fields tt
  have := daysInMonth_le (gmtime tt).year (gmtime tt).mon
  unfold BDT.TwoDigit
  omega

/-- whatever the wraps do to the second count, date and time of day are `gmtime` of it -/
theorem brokenDown_twoDigit (ns : Int) : (brokenDown ns).TwoDigit := by
  simp only [brokenDown, BDT.TwoDigit]
  exact gmtime_twoDigit _

theorem printTimeField_total (spec : Char) (b : BDT) (hb : b.TwoDigit) (tz : Int) (name : Bytes) :
    ∃ out, printTimeField spec b tz name = .ok out := by
  obtain ⟨h1, h2, h3, h4, h5⟩ := hb
  unfold printTimeField
  simp only []
  -- one goal per arm of the `match`, in its order: Y y m d H M S z Z N, any other character
  split
  · exact ⟨_, rfl⟩
  · exact ⟨_, printTwoDigits_yy _⟩
  · exact ⟨_, printTwoDigits_nat _ h1⟩
  · exact ⟨_, printTwoDigits_nat _ h2⟩
  · exact ⟨_, printTwoDigits_nat _ h3⟩
  · exact ⟨_, printTwoDigits_nat _ h4⟩
  · exact ⟨_, printTwoDigits_nat _ h5⟩
  · exact ⟨_, printTimeZoneOffset_eq tz⟩
  · exact ⟨_, rfl⟩
  · exact ⟨_, rfl⟩
  · exact ⟨_, rfl⟩

theorem printTime_nil (b : BDT) (tz : Int) (name : Bytes) : printTime [] b tz name = .ok [] := rfl

theorem printTime_single (c : UInt8) (b : BDT) (tz : Int) (name : Bytes) :
    printTime [c] b tz name = .ok [c] := rfl

theorem printTime_percent (spec : UInt8) (rest : Bytes) (b : BDT) (tz : Int) (name : Bytes) :
    printTime (37 :: spec :: rest) b tz name =
      (do let a ← printTimeField (Char.ofNat spec.toNat) b tz name
          let r ← printTime rest b tz name
          pure (a ++ r)) := by
  simp [printTime]

theorem printTime_literal (c : UInt8) (hc : c ≠ 37) (c2 : UInt8) (rest : Bytes) (b : BDT) (tz : Int)
    (name : Bytes) :
    printTime (c :: c2 :: rest) b tz name =
      (do let r ← printTime (c2 :: rest) b tz name
          pure (c :: r)) := by
  simp [printTime, hc]

theorem printTime_total (b : BDT) (hb : b.TwoDigit) (tz : Int) (name : Bytes) (fmt : Bytes) :
    ∃ out, printTime fmt b tz name = .ok out := by
  fun_induction printTime fmt b tz name with
  | case1 | case2 => exact ⟨_, rfl⟩
  | case3 spec rest ih =>
    obtain ⟨a, ha⟩ := printTimeField_total (Char.ofNat spec.toNat) b hb tz name
    obtain ⟨r, hr⟩ := ih
    exact ⟨a ++ r, by rw [ha, hr]; rfl⟩
  | case4 c spec rest hc ih =>
    obtain ⟨r, hr⟩ := ih
    exact ⟨c :: r, by rw [hr]; rfl⟩

end BinlogVerif.Time
