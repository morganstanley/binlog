import BinlogVerif.Reader.Time
/-
  `civilFromDays` and `daysFromCivil` are inverse because the months `[daysBeforeMonth y m, daysBeforeMonth y (m + 1))`
  partition the year and the years `[daysBeforeYear y, daysBeforeYear (y + 1))` the day numbers; the leap-year rule
  enters in `daysBeforeYear_succ` and, for the last day of a four-year cycle, in `year_of_era`.
-/
namespace BinlogVerif.Time

theorem daysBeforeMonth_succ (y : Int) (m : Nat) :
    daysBeforeMonth y (m + 1) = daysBeforeMonth y m + daysInMonth y m := by
  cases m <;> rfl

theorem daysBeforeMonth_mono (y : Int) (m m' : Nat) (h : m ≤ m') :
    daysBeforeMonth y m ≤ daysBeforeMonth y m' := by
  induction h with
  | refl => exact Nat.le_refl _
  | step _ ih => exact Nat.le_trans ih (daysBeforeMonth_succ y _ ▸ Nat.le_add_right _ _)

theorem lt_of_daysBeforeMonth_lt (y : Int) {m m' : Nat} (h : daysBeforeMonth y m < daysBeforeMonth y m') :
    m < m' :=
  Nat.not_le.mp fun hle => Nat.not_le.mpr h (daysBeforeMonth_mono y m' m hle)

theorem validDate_iff {y : Int} {m d : Nat} :
    ValidDate y m d ↔
      1 ≤ m ∧ m ≤ 12 ∧ 1 ≤ d ∧ daysBeforeMonth y m + d ≤ daysBeforeMonth y (m + 1) := by
  rw [daysBeforeMonth_succ, Nat.add_le_add_iff_left]
  exact Iff.rfl

theorem daysInMonth_of_ne_two (y y' : Int) (m : Nat) (h : m ≠ 2) : daysInMonth y m = daysInMonth y' m := by
  unfold daysInMonth
  split <;> first | rfl | exact absurd rfl h

theorem daysInMonth_le (y : Int) (m : Nat) : daysInMonth y m ≤ 31 := by
  unfold daysInMonth
  split <;> first | decide | (split <;> decide)

theorem daysBeforeMonth_march (y : Int) (mp : Nat) (h : mp ≤ 10) :
    daysBeforeMonth y (mp + 3) = daysBeforeMonth y 3 + (153 * mp + 2) / 5 := by
  induction mp with
  | zero => rfl
  | succ k ih =>
    have t : ∀ k ≤ 9, (153 * k + 2) / 5 + daysInMonth 0 (k + 3) = (153 * (k + 1) + 2) / 5 := by decide
    rw [show k + 1 + 3 = (k + 3) + 1 from rfl, daysBeforeMonth_succ, ih (by omega),
      Nat.add_assoc, daysInMonth_of_ne_two y 0 _ (by omega), t k (by omega)]

theorem daysBeforeMonth_thirteen_march (y : Int) : daysBeforeMonth y 13 = daysBeforeMonth y 3 + 306 :=
  daysBeforeMonth_march y 10 (Nat.le_refl _)

/-- the days before a thirteenth month: the length of year `y` -/
theorem daysBeforeMonth_thirteen (y : Int) :
    daysBeforeMonth y 13 = 365 + (if isLeap y then 1 else 0) := by
  rw [daysBeforeMonth_thirteen_march]
  simp only [daysBeforeMonth, daysInMonth]
  split <;> rfl

theorem daysBeforeMonth_thirteen_bounds (y : Int) :
    365 ≤ daysBeforeMonth y 13 ∧ daysBeforeMonth y 13 ≤ 366 := by
  rw [daysBeforeMonth_thirteen]
  split <;> decide

theorem isLeap_iff {y : Int} : isLeap y = true ↔ (y % 4 = 0 ∧ (y % 100 ≠ 0 ∨ y % 400 = 0)) := by
  simp [isLeap]

theorem ediv_step (y k : Int) (hk : 0 < k) :
    y / k = (y - 1) / k + (if y % k = 0 then 1 else 0) := by
  generalize hq : y / k = q
  generalize hr : y % k = r
  obtain ⟨rfl, r0, r1⟩ := (Int.ediv_emod_unique hk).1 ⟨hq, hr⟩
  rw [show r + k * q - 1 = (r - 1) + k * q by omega, Int.add_mul_ediv_left _ _ (Int.ne_of_gt hk)]
  split
  · rw [Int.ediv_eq_neg_one_of_neg_of_le (by omega) (by omega)]; omega
  · rw [Int.ediv_eq_zero_of_lt (by omega) (by omega)]; omega

theorem daysBeforeYear_succ (y : Int) :
    daysBeforeYear (y + 1) = daysBeforeYear y + daysBeforeMonth y 13 := by
  rw [daysBeforeMonth_thirteen]
  simp only [daysBeforeYear, isLeap, decide_eq_true_eq, Int.add_sub_cancel]
  rw [ediv_step y 4 (by decide), ediv_step y 100 (by decide), ediv_step y 400 (by decide)]
  have h1 : y % 400 = 0 → y % 100 = 0 := by omega
  have h2 : y % 100 = 0 → y % 4 = 0 := by omega
  by_cases h400 : y % 400 = 0
  · simp [h400, h1 h400, h2 (h1 h400)]; omega
  · by_cases h100 : y % 100 = 0
    · simp [h400, h100, h2 h100]; omega
    · by_cases h4 : y % 4 = 0 <;> simp [h400, h100, h4] <;> omega

theorem daysBeforeYear_mono (a b : Int) (h : a ≤ b) : daysBeforeYear a ≤ daysBeforeYear b := by
  obtain ⟨n, rfl⟩ := Int.le.dest h
  clear h
  induction n with
  | zero => rw [Int.natCast_zero, Int.add_zero]; exact Int.le_refl _
  | succ n ih =>
    rw [Int.natCast_succ, ← Int.add_assoc, daysBeforeYear_succ]
    exact Int.le_trans ih (Int.le_add_of_nonneg_right (Int.natCast_nonneg _))

theorem lt_of_daysBeforeYear_lt {a b : Int} (h : daysBeforeYear a < daysBeforeYear b) : a < b :=
  Int.not_le.mp fun hle => Int.not_le.mpr h (daysBeforeYear_mono b a hle)

/-- division by `L` with the quotient capped at `k`: the last part of a cycle may be a day longer -/
theorem capDiv {n L k : Int} (hL : 0 < L) (hk : 0 ≤ k) (h0 : 0 ≤ n) :
    let c := min (n / L) k
    let r := n - c * L
    0 ≤ c ∧ c ≤ k ∧ 0 ≤ r ∧ (c < k → r < L) := by
  have hq := Int.ediv_nonneg h0 (Int.le_of_lt hL)
  have h1 := Int.ediv_mul_le n (Int.ne_of_gt hL)
  have h2 := Int.lt_ediv_add_one_mul_self n hL
  rw [Int.add_mul, Int.one_mul] at h2
  dsimp only
  rcases Int.le_total (n / L) k with h | h
  · rw [Int.min_eq_left h]
    exact ⟨hq, h, by omega, fun _ => by omega⟩
  · rw [Int.min_eq_right h]
    have := Int.mul_le_mul_of_nonneg_right h (Int.le_of_lt hL)
    exact ⟨hk, Int.le_refl _, by omega, fun h => absurd h (Int.lt_irrefl _)⟩

/-- what the algorithm rests on: the year that starts on March 1st of year `400 era + 100 c + 4 q + yy` starts on day
    `146097 era + 36524 c + 1461 q + 365 yy` (days counted from 0000-03-01; see `civil_of_marchYear`) -/
theorem daysBeforeYear_cqy (era : Int) {c q yy : Int} (c0 : 0 ≤ c) (c1 : c ≤ 3) (q0 : 0 ≤ q) (q1 : q ≤ 24)
    (y0 : 0 ≤ yy) (y1 : yy ≤ 3) :
    daysBeforeYear (era * 400 + (100 * c + 4 * q + yy) + 1) = 146097 * era + 36524 * c + 1461 * q + 365 * yy := by
  simp only [daysBeforeYear]
  omega

/-- day `N` (counted from 0000-03-01) is day `doy` of the year that starts on March 1st of `Y`; the `let`s are those of
    `civilFromDays`, so that `civil_spec` can hand this to `civil_of_marchYear` as it stands -/
theorem year_of_era (N : Int) :
    let era := N / 146097
    let doe := N % 146097
    let c := min (doe / 36524) 3
    let doc := doe - c * 36524
    let q := min (doc / 1461) 24
    let d4 := doc - q * 1461
    let yy := min (d4 / 365) 3
    let doy := d4 - yy * 365
    let yoe := 100 * c + 4 * q + yy
    let Y := era * 400 + yoe
    daysBeforeYear (Y + 1) = N - doy ∧ 0 ≤ doy ∧ doy < daysBeforeMonth (Y + 1) 13 := by
  intro era doe c doc q d4 yy doy yoe Y
  obtain ⟨hN, h0, h1⟩ : doe + 146097 * era = N ∧ 0 ≤ doe ∧ doe < 146097 :=
    (Int.ediv_emod_unique (by decide)).1 ⟨rfl, rfl⟩
  obtain ⟨c0, c1, doc0, doc1⟩ : 0 ≤ c ∧ c ≤ 3 ∧ 0 ≤ doc ∧ (c < 3 → doc < 36524) :=
    capDiv (by decide) (by decide) h0
  obtain ⟨q0, q1, d40, d41⟩ : 0 ≤ q ∧ q ≤ 24 ∧ 0 ≤ d4 ∧ (q < 24 → d4 < 1461) :=
    capDiv (by decide) (by decide) doc0
  obtain ⟨y0, y1, doy0, doy1⟩ : 0 ≤ yy ∧ yy ≤ 3 ∧ 0 ≤ doy ∧ (yy < 3 → doy < 365) :=
    capDiv (by decide) (by decide) d40
  -- from here on the quotients are variables (`omega` would look into them: slow to check)
  clear_value era doe c q yy
  subst hN
  refine ⟨(daysBeforeYear_cqy era c0 c1 q0 q1 y0 y1).trans (by omega), doy0, ?_⟩
  by_cases hl : doy < 365
  · have := daysBeforeMonth_thirteen_bounds (Y + 1)
    omega
  · -- the last day of a four-year cycle that is not the last of its century, or of the era
    obtain rfl : yy = 3 := by omega
    have hl : isLeap (Y + 1) = true := isLeap_iff.2 (by omega)
    rw [daysBeforeMonth_thirteen, if_pos hl]
    omega

/-- `N` is a day number counted from 0000-03-01 and `doy` its position in the year that starts on March 1st of `Y`.
    That year ends with the February of `Y + 1`, so it is as long as the civil year `Y + 1`: its first day is day
    `daysBeforeYear (Y + 1)`. -/
theorem civil_of_marchYear (Y N doy : Int)
    (h : daysBeforeYear (Y + 1) = N - doy ∧ 0 ≤ doy ∧ doy < daysBeforeMonth (Y + 1) 13) :
    let mp := (5 * doy + 2) / 153
    let d := doy - (153 * mp + 2) / 5 + 1
    let m := if mp < 10 then mp + 3 else mp - 9
    let y := Y + if m ≤ 2 then 1 else 0
    ValidDate y m.toNat d.toNat ∧ daysFromCivil y m.toNat d.toNat = N - 719468 := by
  obtain ⟨hdoy, h0, h1⟩ := h
  have t := daysBeforeMonth_thirteen_bounds (Y + 1)
  obtain ⟨k, hk⟩ : ∃ k : Nat, (5 * doy + 2) / 153 = k :=
    Int.eq_ofNat_of_zero_le (Int.ediv_nonneg (by omega) (by decide))
  rw [hk]
  -- `k = (5 doy + 2) / 153` inverts the cumulative month lengths `(153 k + 2) / 5`
  obtain ⟨lo, hi, k11, e⟩ : ((153 * k + 2) / 5 : Nat) ≤ doy ∧ doy < ((153 * (k + 1) + 2) / 5 : Nat) ∧
      k ≤ 11 ∧ (153 * (k : Int) + 2) / 5 = ((153 * k + 2) / 5 : Nat) := by omega
  clear hk
  -- the day of the month as a natural number: `omega` is slow on `toNat`
  obtain ⟨j, hj⟩ := Int.le.dest_sub lo
  dsimp only
  rw [e, hj, Int.toNat_natCast_add_one, validDate_iff]
  unfold daysFromCivil
  by_cases hk : k < 10
  · clear k11 e h1 lo t
    have a := daysBeforeMonth_march Y k (Nat.le_of_lt hk)
    have b := daysBeforeMonth_march Y (k + 1) hk
    rw [Nat.add_right_comm] at b
    have s := daysBeforeYear_succ Y
    have l := daysBeforeMonth_thirteen_march Y
    generalize (153 * k + 2) / 5 = s at *
    generalize (153 * (k + 1) + 2) / 5 = s' at *
    rw [if_pos (show (k : Int) < 10 from Int.ofNat_lt.mpr hk), show (k : Int) + 3 = ((k + 3 : Nat) : Int) from rfl,
      if_neg (by omega), Int.add_zero, Int.toNat_natCast]
    omega
  · have l := daysBeforeMonth_thirteen_march (Y + 1)
    have j1 : daysBeforeMonth (Y + 1) 1 = 0 := rfl
    have j2 : daysBeforeMonth (Y + 1) 2 = 31 := rfl
    obtain rfl | rfl : k = 10 ∨ k = 11 := by omega
    all_goals
      simp only [Int.reduceLT, Int.reduceSub, Int.reduceLE, Int.reduceToNat, Int.cast_ofNat_Int, Nat.reduceAdd,
        if_true, if_false]
      omega

theorem civil_spec (z : Int) :
    ValidDate (civilFromDays z).1 (civilFromDays z).2.1 (civilFromDays z).2.2 ∧
    daysFromCivil (civilFromDays z).1 (civilFromDays z).2.1 (civilFromDays z).2.2 = z := by
  have h := civil_of_marchYear _ _ _ (year_of_era (z + 719468))
  rwa [Int.add_sub_cancel] at h

theorem daysFromCivil_bounds {y : Int} {m d : Nat} (hv : ValidDate y m d) :
    daysBeforeYear y ≤ daysFromCivil y m d + 719162 ∧
    daysFromCivil y m d + 719162 < daysBeforeYear (y + 1) := by
  obtain ⟨h1, h2, h3, h4⟩ := validDate_iff.mp hv
  have := daysBeforeMonth_mono y (m + 1) 13 (by omega)
  rw [daysBeforeYear_succ]
  unfold daysFromCivil
  omega

theorem daysFromCivil_inj {y y' : Int} {m d m' d' : Nat} (hv : ValidDate y m d)
    (hv' : ValidDate y' m' d') (h : daysFromCivil y m d = daysFromCivil y' m' d') :
    y = y' ∧ m = m' ∧ d = d' := by
  have b := daysFromCivil_bounds hv
  have b' := daysFromCivil_bounds hv'
  obtain rfl : y = y' := Int.le_antisymm
    (Int.le_of_lt_add_one (lt_of_daysBeforeYear_lt (by omega)))
    (Int.le_of_lt_add_one (lt_of_daysBeforeYear_lt (by omega)))
  clear b b'
  obtain ⟨_, _, h3, h4⟩ := validDate_iff.mp hv
  obtain ⟨_, _, h3', h4'⟩ := validDate_iff.mp hv'
  unfold daysFromCivil at h
  obtain rfl : m = m' := Nat.le_antisymm
    (Nat.le_of_lt_add_one (lt_of_daysBeforeMonth_lt y (by omega)))
    (Nat.le_of_lt_add_one (lt_of_daysBeforeMonth_lt y (by omega)))
  exact ⟨rfl, rfl, by omega⟩

theorem civilFromDays_daysFromCivil (y : Int) (m d : Nat) (hv : ValidDate y m d) :
    civilFromDays (daysFromCivil y m d) = (y, m, d) := by
  obtain ⟨v, e⟩ := civil_spec (daysFromCivil y m d)
  obtain ⟨a, b, c⟩ := daysFromCivil_inj v hv e
  exact Prod.ext a (Prod.ext b c)

end BinlogVerif.Time
