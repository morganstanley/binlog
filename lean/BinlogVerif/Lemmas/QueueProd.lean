import BinlogVerif.Lemmas.QueueInv
namespace BinlogVerif.Q

theorem Inv.nextTok_eq {s : St} (h : Inv s) : s.nextTok = s.hBase + s.pW + (s.wp - s.start) := by
  rw [h.g6a, h.g6b, List.length_range']

/-- `endWrite`, window not wrapped -/
theorem Inv.commit {s : St} (h : Inv s) (hw : s.wrapP = false) :
    Inv { s with pW := s.wp, wHist := s.wHist ++ [⟨s.wp, s.pEpoch, s.hl, s.hBase⟩], pEpoch := s.pEpoch + 1,
                 commits := s.commits ++ [s.pending], pending := [], wrapP := false } := by
  obtain ⟨c1, c2, c3⟩ := h.c2 hw
  have hst : s.start = s.pW := by simp [St.start, hw]
  have hwp : s.wp ≤ s.cap := Nat.le_trans c2 h.a7e
  have hW := h.wChain.push ⟨s.wp, s.pEpoch, s.hl, s.hBase⟩ h.p3 (Or.inr ⟨rfl, c1⟩)
  -- region [c, h') is region [c, h) and the pending cells
  have f2h' : ∀ x, btw s.E s.cLap s.cR s.hl s.wp x → s.wEp.getD x 0 < s.pEpoch + 1 := fun x hb => by
    rcases btw_split_right (p2 := s.pW) hb with hb | hb
    · exact Nat.lt_succ_of_lt (h.f2h x hb)
    · rw [(h.f3 x (hst ▸ hb.1) hb.2).1]; exact Nat.lt_succ_self _
  have g4h' : (s.commits ++ [s.pending]).flatten = List.range' 1 (s.hBase + s.wp - 1) := by
    rw [List.flatten_concat, h.g4h, h.g6b, hst]
    have := range'_append_sub (a := 1) (b := s.hBase + s.pW) (c := s.hBase + s.wp)
      (Nat.le_add_right_of_le h.g1h) (Nat.add_le_add_left c1 _)
    rwa [Nat.add_sub_add_left] at this
  exact { h with
    a1p := by rw [List.length_append, ← h.a1p]; rfl
    a2c := by rw [List.length_append]; exact Nat.lt_add_right _ h.a2c
    a4 := forall_append_singleton h.a4 h.a1p
    a7p := hwp
    a10 := forall_append_singleton h.a10 hwp
    p3 := ple_trans h.p3 (Or.inr ⟨rfl, c1⟩)
    p6 := hW.1
    p7 := hW.2
    b2 := fun e => Nat.lt_of_le_of_lt c2 (c3 e)
    b5 := forall_ge_append_singleton h.b5 (fun _ e => absurd e (Nat.succ_ne_self _))
    c1 := fun hf => by cases hf
    c2 := fun _ => ⟨Nat.le_refl _, c2, c3⟩
    d2 := Nat.le_succ_of_le h.d2
    d3 := forall_ge_append_singleton h.d3 (fun _ _ => h.a1p ▸ h.d2)
    f1 := fun x j mj hp hj hlt => btw_mono_right c1 (h.f1 x j mj hp hj hlt)
    f2 := fun x => forall_ge_append_singleton (h.f2 x) (fun _ hb => Nat.le_of_lt_succ (h.a1p ▸ f2h' x hb))
    f2h := f2h'
    f3 := fun x h1 h2 => absurd (Nat.lt_of_le_of_lt h1 h2) (Nat.lt_irrefl _)
    f4hi := fun x hx => by gr [h.f4hi x, h.f3 x]  -- as `f2h'`, the tokens of the pending cells being `f3`'s
    g3 := forall_ge_append_singleton h.g3 (fun _ => ⟨fun _ => rfl, fun e => (h.g2a e.symm).symm⟩)
    g4 := forall_append_singleton
      (fun i mi hi => by rw [List.take_append_of_le_length (h.msg_le hi)]; exact h.g4 i mi hi)
      ⟨h.g1h, by rw [List.take_of_length_le (by rw [List.length_append, h.g5.symm]; simp)]; exact g4h'⟩
    g4h := g4h'
    g5 := by simp only [List.length_append, List.length_singleton]; om [h.g5]
    g6a := (by rw [h.nextTok_eq, hst, Nat.add_assoc, Nat.add_sub_cancel' c1] : s.nextTok = s.hBase + s.wp)
    g6b := by simp [St.start]
    g8 := fun d => Boundary.comm.1 ((Boundary.comm.2 (h.g8 d)).append _)
    g10 := Boundary.append h.g10 _
    g11 := Boundary.append h.g11 _
    g12 := fun p => Boundary.append (h.g12 p) _ }

/-- `endWrite` on a wrapped window is this ghost move followed by `Inv.commit`: the head turns to offset 0 of the next
    lap, the old lap ending at `dataEnd = pW` -/
theorem Inv.turn {s : St} (h : Inv s) (hw : s.wrapP = true) :
    Inv { s with hl := s.hl + 1, hBase := s.hBase + s.pW, pW := 0, wrapP := false } := by
  obtain ⟨c1, c2, c3, c4⟩ := h.c1 hw
  have hst : s.start = 0 := if_pos hw
  obtain ⟨l1, l2, r1, r2, hm⟩ := h.one_lap c1
  have f3 := h.f3
  have g6b := h.g6b
  rw [hst] at f3 g6b
  exact { h with
    a7p := Nat.zero_le _
    p3 := Or.inl (Nat.lt_succ_of_le (Nat.le_of_eq l2))
    p6 := fun i mi hc hi => ⟨(h.p6 i mi hc hi).1, Or.inl (Nat.lt_succ_of_le (Nat.le_of_eq (hm i mi hc hi).1))⟩
    b1 := Nat.succ_le_succ (Nat.le_of_eq c1)
    b2 := fun _ => Nat.zero_lt_of_lt c2
    b3 := fun _ => le_of_le_of_eq (Nat.le_trans r1 r2) c3.symm
    b4 := fun _ => le_of_le_of_eq r2 c3.symm
    b5 := fun i mi hc hi _ => le_of_le_of_eq (hm i mi hc hi).2 c3.symm
    c1 := fun hf => by cases hf
    c2 := fun _ => ⟨Nat.zero_le _, c4, fun _ => c2⟩
    d1 := fun _ => le_of_eq_of_le c3 h.a7p
    d4 := fun j mj hp hj hlt => Nat.lt_succ_of_lt (h.d4 j mj hp hj hlt)
    f1 := fun x j mj hp hj hlt => btw_mono_right_lap (Or.inl (Nat.lt_succ_self _))
      (Nat.succ_le_succ (Nat.le_trans (Nat.le_of_eq c1) (ple_lap (h.p4 j mj hp hj).1)))
      (fun _ => Nat.le_of_eq c3.symm) (h.f1 x j mj hp hj hlt)
    f2h := fun x hb => h.f2h x (by pom [])
    f3 := fun x _ => f3 x (Nat.zero_le x)
    f4lo := fun x _ h2 h3 => h.g2a l1 ▸ h.f4hi x (Or.inl ⟨l1, h2, c3 ▸ h3⟩)
    f4hi := fun x hx => absurd (hx.elim (·.2.2) (·.2)) (Nat.not_lt_zero x)
    g1h := Nat.le_trans h.g1h (Nat.le_add_right _ _)
    g2a := fun e => absurd (e.symm.trans l1) (Nat.succ_ne_self _)
    g2b := fun _ => (by rw [h.g2a l1, c3] : s.hBase + s.pW = s.cBase + s.E)
    g2c := fun e => absurd (e.symm.trans l2) (Nat.succ_ne_self _)
    g3 := fun i mi hc hi => ⟨fun e => absurd (e.symm.trans (hm i mi hc hi).1) (Nat.succ_ne_self _), (h.g3 i mi hc hi).2⟩
    g6b := g6b
    g11 := h.g4h ▸ Boundary.all _ }

theorem inv_pEnd (o : Orders) (ho : o.Sufficient) {s s' : St} (h : Inv s)
    (e : step o s Op.pEnd = some s') : Inv s' := by
  cases ho.eq
  cases hw : s.wrapP
  · simp only [step, hw, if_true, Option.some.injEq, Bool.false_eq_true, if_false] at e
    exact e ▸ h.commit hw
  · simp only [step, hw, if_true, Option.some.injEq] at e
    exact e ▸ (h.turn hw).commit rfl

/-- the load of `readIndex` in `maximizeWriteCapacity`: `k` moves forward to the message read, which only shrinks the
    region `[k, h)` the window has to avoid -/
theorem Inv.readR {s : St} (h : Inv s) {j : Nat} {m : Msg} (hp : s.pRidx ≤ j) (hj : s.rHist[j]? = some m)
    (ps : Nat) (hps : j ≤ ps) :
    Inv { s with pRidx := j, pSees := ps, kLap := m.lap, kVal := m.val } := by
  obtain ⟨M1, M2⟩ := h.p4 j m hp hj
  obtain ⟨-, l2, l3, l4⟩ := h.laps
  have hR := h.rChain.advance hp hj
  have hk : s.hl = m.lap + 1 → s.hl = s.kLap + 1 ∧ s.kVal ≤ m.val := fun e => by omega
  exact { h with
    a2p := getElem?_lt_length hj
    a3p := hps
    p1 := M2
    p4 := hR.1
    p5 := hR.2
    b1 := Nat.le_trans h.b1 (Nat.succ_le_succ (ple_lap M1))
    b2 := fun e => Nat.lt_of_lt_of_le (h.b2 (hk e).1) (hk e).2
    c1 := fun hw => by
      obtain ⟨c1, c2, c3⟩ := h.c1 hw
      obtain ⟨e, v, -⟩ := ple_squeeze M1 (ple_trans M2 (ple_trans h.p2 h.p3)) c1.symm
      exact ⟨e.symm, Nat.le_trans c2 v, c3⟩
    c2 := fun hw => ⟨(h.c2 hw).1, (h.c2 hw).2.1, fun e => Nat.le_trans ((h.c2 hw).2.2 (hk e).1) (hk e).2⟩
    d1 := fun e => h.d1 (hk e).1
    d4 := fun j' mj' hp' => h.d4 j' mj' (Nat.le_trans hp hp')
    f1 := fun x j' mj' hp' => h.f1 x j' mj' (Nat.le_trans hp hp') }

/-- the first two branches of `maximizeWriteCapacity`: with nothing pending, any window `[pW, e)` ending before `k` -/
theorem Inv.setWindow {s : St} (h : Inv s) (hpe : s.pending = []) (e : Nat) (h1 : s.pW ≤ e) (h2 : e ≤ s.cap)
    (h3 : s.hl = s.kLap + 1 → e + 1 ≤ s.kVal) :
    Inv { s with wrapP := false, wp := s.pW, we := e } :=
  { h with
    a7e := h2
    c1 := fun hf => by cases hf
    c2 := fun _ => ⟨Nat.le_refl _, h1, h3⟩
    f3 := fun x h1 h2 => absurd (Nat.lt_of_le_of_lt h1 h2) (Nat.lt_irrefl _)
    g6b := by simp [hpe, St.start] }

/-- the third branch of `maximizeWriteCapacity`, the wrap: `k` is then on the head's lap, hence every position is, and that lap
    now ends at `dataEnd := pW` -/
theorem Inv.wrapWindow {s : St} (h : Inv s) (hpe : s.pending = []) (hge : ¬ s.pW < s.kVal)
    (hbig : ¬ s.kVal + s.pW ≤ s.cap + 1) :
    Inv { s with E := s.pW, eWEp := s.pEpoch, wp := 0, we := s.kVal - 1, wrapP := true } := by
  have hl : s.hl = s.kLap := by om [h.laps, h.b2]
  obtain ⟨l1, -, r1, r2, hm⟩ := h.one_lap hl
  exact { h with
    a7e := by pom [h.a7p]
    b3 := fun _ => Nat.le_trans r1 r2
    b4 := fun _ => r2
    b5 := fun i mi hc hi _ => (hm i mi hc hi).2
    c1 := fun _ => ⟨hl, by pom [h.a7p], rfl, Nat.zero_le _⟩
    c2 := fun hf => by cases hf
    d1 := fun _ => h.a7p
    d2 := Nat.le_refl _
    d3 := fun i mi hc hi e => by pom [hm i mi hc hi]
    -- R message `j` is on the head's lap (`p4`), where `btw` does not read `E`
    f1 := fun x j mj hp hj hlt => by gr [h.f1 x j mj hp hj hlt, h.p4 j mj hp hj]
    f2 := fun x i mi hc hi hb => h.f2 x i mi hc hi
      (hb.imp_right fun a => absurd (a.1.trans ((hm i mi hc hi).1.trans l1.symm)) (Nat.succ_ne_self _))
    f2h := fun x hb => h.f2h x (hb.imp_right fun a => absurd (a.1.trans l1.symm) (Nat.succ_ne_self _))
    f3 := fun x _ h2 => absurd h2 (Nat.not_lt_zero _)
    f4lo := fun x e => by pom []
    g2b := fun e => by pom []
    g6b := by simp [hpe, St.start] }

theorem inv_pBegin (o : Orders) (ho : o.Sufficient) {s s' : St} (h : Inv s) {n j : Nat}
    (e : step o s (Op.pBegin n j) = some s') : Inv s' := by
  cases ho.eq
  rcases step_pBegin_some e with rfl | ⟨-, hpe, hp, m, hj, rfl⟩
  · exact h
  have hps : j ≤ max s.pSees m.pub := by om [h.a5 j m hj]
  have hv := h.readR hp hj _ hps
  unfold pWindow
  by_cases hlt : s.pW < m.val
  · exact if_pos hlt ▸ hv.setWindow hpe (m.val - 1) (Nat.le_sub_one_of_lt hlt)
      (Nat.le_trans (Nat.sub_le _ _) (h.a8 j m hj)) (fun _ => by pom [])
  by_cases hbig : m.val + s.pW ≤ s.cap + 1
  · exact if_neg hlt ▸ if_pos hbig ▸ hv.setWindow hpe s.cap h.a7p (Nat.le_refl _) (fun e => absurd (hv.b2 e) hlt)
  · -- `dataEnd` was last read in a consumer epoch that `m` publishes
    have hnr : ¬ (s.eREp > max s.pSees m.pub) := fun hgt =>
      hlt (hv.b2 (Nat.le_antisymm hv.b1 (h.d4 j m hp hj (Nat.lt_of_le_of_lt hps hgt))))
    exact if_neg hlt ▸ if_neg hbig ▸ if_neg hnr ▸ hv.wrapWindow hpe hlt hbig

/-- `writeBuffer` -/
theorem Inv.write {s : St} (h : Inv s) (k : Nat) (hk : k ≤ s.we - s.wp) :
    Inv { s with data := setRange s.data s.wp (s.nextTok + ·) k, wEp := setRange s.wEp s.wp (fun _ => s.pEpoch) k,
                 nextTok := s.nextTok + k, wp := s.wp + k, pending := s.pending ++ List.range' s.nextTok k } := by
  -- a cell of `[c, h)`, of which the invariant speaks for another reason, is outside the window, hence untouched
  have out : ∀ (l : List Nat) (f : Nat → Nat) {x}, btw s.E s.cLap s.cR s.hl s.pW x →
      (setRange l s.wp f k).getD x 0 = l.getD x 0 :=
    fun l f x hb => by rw [getD_setRange, if_neg fun hx => h.window_c hx.1 (by omega) hb]
  have outw := @out s.wEp (fun _ => s.pEpoch)
  have outd := @out s.data (s.nextTok + ·)
  exact { h with
    a7d := length_setRange.trans h.a7d
    a7w := length_setRange.trans h.a7w
    c1 := fun hw => by pom [h.c1 hw]
    c2 := fun hw => by pom [h.c2 hw]
    f2 := fun x i mi hc hi hb => outw (btw_mono_right_lap (h.p6 i mi hc hi).2
      (Nat.le_trans h.b1 (Nat.succ_le_succ (ple_lap h.p1))) (h.b5 i mi hc hi) hb) ▸ h.f2 x i mi hc hi hb
    f2h := fun x hb => outw hb ▸ h.f2h x hb
    f3 := fun x (h1 : s.start ≤ x) (h2 : x < s.wp + k) =>
      show (setRange ..).getD x 0 = _ ∧ (setRange ..).getD x 0 + s.start = s.hBase + s.pW + x by
      rw [getD_setRange, getD_setRange, h.a7w, h.a7d]
      split
      · exact ⟨rfl, by om [h.nextTok_eq, h.start_le]⟩
      · exact h.f3 x h1 (by om [h.a7e])
    f4lo := fun x h1 h2 h3 => outd (Or.inr ⟨h1, Or.inl ⟨h2, h3⟩⟩) ▸ h.f4lo x h1 h2 h3
    f4hi := fun x hx => outd (hx.imp_right (And.imp_right Or.inr)) ▸ h.f4hi x hx
    g6a := by simp only [List.length_append, List.length_range']; pom [h.g6a]
    g6b := show s.pending ++ _ = List.range' (s.hBase + s.pW) (s.wp + k - s.start) by
      rw [Nat.sub_add_comm h.start_le, ← List.range'_append_1, ← h.g6b, ← h.nextTok_eq] }

theorem inv_pWrite {o : Orders} {s s' : St} (h : Inv s) {k : Nat}
    (e : step o s (Op.pWrite k) = some s') : Inv s' := by
  by_cases hk : k > s.we - s.wp
  · simp only [step, hk, if_true] at e; cases e
  have hnr : ∀ y, s.wp ≤ y → y < s.wp + k → s.rEp.getD y 0 ≤ s.pSees := fun y h1 h2 =>
    Nat.le_trans (h.window_rEp h1 (by omega)) h.a3p
  simp only [step, hk, if_false, writeCells_eq hnr, Option.some.injEq] at e
  exact e ▸ h.write k (by omega)

end BinlogVerif.Q
