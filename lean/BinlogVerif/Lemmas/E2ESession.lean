import BinlogVerif.Lemmas.E2E
/-
  End-to-end composition, session side: when the operations' data are representable (`OpsWf`), so is every entry of
  every output of a reachable session, up to the source-id bound and `batchSize` (`EntryOk`, `EntryOk.wf`), and its
  source entries are entries of `s.sources`.
-/
namespace BinlogVerif.E2E
open BinlogVerif BinlogVerif.Sess

/-- the source definitions after reading `es` (newest first) -/
def srcsAfter (srcs : List EventSource) : List Entry → List EventSource
  | [] => srcs
  | .source s :: es => srcsAfter (s :: srcs) es
  | _ :: es => srcsAfter srcs es

/-- the latest writer properties after reading `es` -/
def wpAfter (wp : WriterProp) : List Entry → WriterProp
  | [] => wp
  | .writerProp w :: es => wpAfter w es
  | _ :: es => wpAfter wp es

/-- the latest clock sync after reading `es` -/
def csAfter (cs : ClockSync) : List Entry → ClockSync
  | [] => cs
  | .clockSync c :: es => csAfter c es
  | _ :: es => csAfter cs es

theorem expectedItems_append (srcs : List EventSource) (wp : WriterProp) (cs : ClockSync) (a b : List Entry) :
    expectedItems srcs wp cs (a ++ b) =
      expectedItems srcs wp cs a ++ expectedItems (srcsAfter srcs a) (wpAfter wp a) (csAfter cs a) b := by
  induction a generalizing srcs wp cs with
  | nil => rfl
  | cons e es ih => cases e <;> simp only [List.cons_append, expectedItems, srcsAfter, wpAfter, csAfter, ih]

theorem mem_srcsAfter (srcs : List EventSource) (es : List Entry) (x : EventSource) :
    x ∈ srcsAfter srcs es ↔ x ∈ srcs ∨ Entry.source x ∈ es := by
  induction es generalizing srcs with
  | nil => simp [srcsAfter]
  | cons e es ih =>
    cases e with
    | source s =>
      simp only [srcsAfter, ih, List.mem_cons, Entry.source.injEq, or_assoc]
      exact or_left_comm
    | _ => simp [srcsAfter, ih]

theorem wpAfter_none (wp : WriterProp) (b : List Entry) (hb : ∀ w', Entry.writerProp w' ∉ b) : wpAfter wp b = wp := by
  induction b with
  | nil => rfl
  | cons e es ih =>
    cases e with
    | writerProp w1 => exact absurd List.mem_cons_self (hb w1)
    | _ => exact ih fun w' hm => hb w' (List.mem_cons_of_mem _ hm)

theorem csAfter_none (cs : ClockSync) (b : List Entry) (hb : ∀ c', Entry.clockSync c' ∉ b) : csAfter cs b = cs := by
  induction b with
  | nil => rfl
  | cons e es ih =>
    cases e with
    | clockSync c1 => exact absurd List.mem_cons_self (hb c1)
    | _ => exact ih fun c' hm => hb c' (List.mem_cons_of_mem _ hm)

theorem expectedItems_at (srcs : List EventSource) (wp : WriterProp) (cs : ClockSync)
    (pre post : List Entry) (sid clock : Nat) (args : Bytes) :
    expectedItems srcs wp cs (pre ++ Entry.event sid clock args :: post) =
      expectedItems srcs wp cs pre ++
        (match (srcsAfter srcs pre).find? (fun s => s.id == sid) with
         | some src => Item.event ⟨src, clock, args⟩ (wpAfter wp pre) (csAfter cs pre)
         | none => Item.error .invalidSource)
        :: expectedItems (srcsAfter srcs pre) (wpAfter wp pre) (csAfter cs pre) post := by
  rw [expectedItems_append]; rfl

theorem expectedItems_noError (l : List Entry) (srcs : List EventSource) (wp : WriterProp) (cs : ClockSync)
    (h : ∀ pre post sid clock args, l = pre ++ Entry.event sid clock args :: post →
      ∃ src, (src ∈ srcs ∨ Entry.source src ∈ pre) ∧ src.id = sid) :
    ∀ it ∈ expectedItems srcs wp cs l, it.isError = false := by
  -- in terms of `srcsAfter`, dropping the first entry of `l` leaves the hypothesis as it is
  replace h : ∀ pre post sid clock args, l = pre ++ Entry.event sid clock args :: post →
      ∃ src ∈ srcsAfter srcs pre, src.id = sid := fun pre post sid clock args hl =>
    let ⟨src, hm, hid⟩ := h pre post sid clock args hl
    ⟨src, (mem_srcsAfter srcs pre src).mpr hm, hid⟩
  induction l generalizing srcs wp cs with
  | nil => intro it hit; cases hit
  | cons e es ih =>
    have hshift : ∀ pre post sid clock args, es = pre ++ Entry.event sid clock args :: post →
        ∃ src ∈ srcsAfter srcs (e :: pre), src.id = sid :=
      fun pre post sid clock args hl => h (e :: pre) post sid clock args (by rw [hl]; rfl)
    cases e with
    | event sid0 clock0 args0 =>
      intro it hit
      rcases List.mem_cons.mp hit with hit | hit
      · obtain ⟨src, hm, hid⟩ := h [] es sid0 clock0 args0 rfl
        cases hf : srcs.find? (fun s => s.id == sid0) with
        | none => simpa [hid] using List.find?_eq_none.mp hf src hm
        | some x => rw [hit, hf]; rfl
      · exact ih srcs wp cs hshift it hit
    | _ => exact ih _ _ _ hshift
/-- a log that scans from `st` reads the same from two reader states that know the same source for every id in
    `st.defined` and, once a clock sync has been seen, the same clock sync -/
theorem expectedItems_scan {l : List Entry} {st st' : ScanSt} {srcs srcs' : List EventSource} {c c' : ClockSync}
    (wp : WriterProp) (hscan : Sess.scan st l = some st')
    (hsrc : ∀ id ∈ st.defined, srcs.find? (fun s => s.id == id) = srcs'.find? (fun s => s.id == id))
    (hcs : st.hasCS = true → c = c') :
    expectedItems srcs wp c l = expectedItems srcs' wp c' l := by
  induction l generalizing st srcs srcs' wp c c' with
  | nil => rfl
  | cons e es ih =>
    cases e with
    | source s =>
      refine ih (st := { st with defined := s.id :: st.defined }) wp hscan (fun id hid => ?_) hcs
      by_cases hi : s.id = id
      · simp [hi]
      · simpa [hi] using hsrc id ((List.mem_cons.mp hid).resolve_left (Ne.symm hi))
    | writerProp w => exact ih w hscan hsrc hcs
    | clockSync k => exact ih (st := { st with hasCS := true }) wp hscan hsrc fun _ => rfl
    | event sid clock args =>
      by_cases hd : sid ∈ st.defined ∧ st.hasCS = true
      · simp only [Sess.scan, scanStep, if_pos hd] at hscan
        obtain rfl := hcs hd.2
        simp only [expectedItems, hsrc sid hd.1, ih wp hscan hsrc hcs]
      · simp only [Sess.scan, scanStep, if_neg hd] at hscan
        cases hscan

theorem source_unique (l : List Entry) (hnd : (srcIds l).Nodup) (a b : EventSource)
    (ha : Entry.source a ∈ l) (hb : Entry.source b ∈ l) (hid : a.id = b.id) : a = b := by
  have hp := List.pairwise_filterMap.mp hnd
  obtain ⟨pre, post, rfl⟩ := List.append_of_mem ha
  obtain ⟨_, h2, h3⟩ := List.pairwise_append.mp hp
  rcases List.mem_append.mp hb with hb | hb
  · exact absurd hid.symm (h3 _ hb _ List.mem_cons_self _ rfl _ rfl)
  · rcases List.mem_cons.mp hb with hb | hb
    · exact (Entry.source.inj hb).symm
    · exact absurd hid ((List.pairwise_cons.mp h2).1 _ hb _ rfl _ rfl)

/-- the fields of an event source other than the id fit their machine types -/
def SrcOk (s : EventSource) : Prop :=
  s.severity < 2^16 ∧ s.category.length < 2^32 ∧ s.function.length < 2^32 ∧ s.file.length < 2^32 ∧
  s.line < 2^64 ∧ s.formatString.length < 2^32 ∧ s.argumentTags.length < 2^32

/-- writer id and name fit (the name together with the 28 fixed bytes of a writer-description payload
    fits the size prefix); `batchSize` is set by `consume` -/
def WpOk (w : WriterProp) : Prop := w.id < 2^64 ∧ w.name.length + 28 < 2^32

/-- representability relative to a bound `n` on source ids, leaving `batchSize` aside -/
def EntryOk (n : Nat) : Entry → Prop
  | .clockSync cs => cs.Wf ∧ PayloadOk (clockSyncPayload cs)
  | .source s => s.id < n ∧ SrcOk s ∧ PayloadOk (sourcePayload s)
  | .writerProp w => WpOk w
  | .event sid clock args => sid < n ∧ clock < 2^64 ∧ PayloadOk (eventPayload sid clock args)

theorem EntryOk.mono {n m : Nat} {e : Entry} (hnm : n ≤ m) (h : EntryOk n e) : EntryOk m e := by
  cases e with
  | source _ | event _ _ _ => exact ⟨Nat.lt_of_lt_of_le h.1 hnm, h.2⟩
  | _ => exact h

theorem writerPropPayload_length (w : WriterProp) : (writerPropPayload w).length = w.name.length + 28 := by
  simp [writerPropPayload, encWriterProp, encStr]; omega

theorem sourcePayload_length_id (s : EventSource) (k : Nat) :
    (sourcePayload { s with id := k }).length = (sourcePayload s).length := by
  simp [sourcePayload, encSource]

theorem EntryOk.wf {n : Nat} {e : Entry} (hn : n ≤ 2^63) (h : EntryOk n e)
    (hb : ∀ w, e = Entry.writerProp w → w.batchSize < 2^64) : EntryWf e := by
  cases e with
  | clockSync cs => exact h
  | source s => exact ⟨⟨Nat.lt_of_lt_of_le h.1 (Nat.le_trans hn (by decide)), h.2.1⟩, h.2.2⟩
  | writerProp w =>
    refine ⟨⟨h.1, by have := h.2; omega, hb w rfl⟩, ?_⟩
    unfold PayloadOk
    rw [writerPropPayload_length]
    exact h.2
  | event sid clock args => exact ⟨Nat.lt_of_lt_of_le h.1 hn, h.2⟩

/-- the data of an operation are representable -/
def OpWf : Op → Prop
  | .createWriter _ id name => id < 2^64 ∧ name.length + 28 < 2^32
  | .setWriterId _ id => id < 2^64
  | .setWriterName _ name => name.length + 28 < 2^32
  | .addSource src => SrcOk src ∧ PayloadOk (sourcePayload src)
  | .log _ sid clock args _ => clock < 2^64 ∧ PayloadOk (eventPayload sid clock args)
  | .setClockSync cs => cs.Wf ∧ PayloadOk (clockSyncPayload cs)
  | _ => True

/-- the initial clock sync and the data of every operation are representable -/
def OpsWf (cs0 : ClockSync) (ops : List Op) : Prop :=
  (cs0.Wf ∧ PayloadOk (clockSyncPayload cs0)) ∧ ∀ op ∈ ops, OpWf op

/-- what `WfInv` says of an entry, `n` being the session's next source id and `S` its source buffer: the entry is
    representable, and a source entry is one of `S`.  `n` and `S` only grow; said of every entry the session holds, in
    the buffers and queues as in the outputs, this is inductive on its own. -/
def Good (n : Nat) (S : List Entry) (e : Entry) : Prop := EntryOk n e ∧ (isSource e = true → e ∈ S)

theorem Good.mono {n m : Nat} {S S' : List Entry} {e : Entry} (hnm : n ≤ m) (hS : ∀ x ∈ S, x ∈ S')
    (h : Good n S e) : Good m S' e :=
  ⟨h.1.mono hnm, fun hs => hS e (h.2 hs)⟩

def ChanWf (n : Nat) (S : List Entry) (c : Chan) : Prop := WpOk c.wp ∧ ∀ e ∈ c.entries, Good n S e

/-- every entry held anywhere in the session is `Good`: in the two metadata buffers, in a queue, in an output -/
structure WfInv (s : Session) : Prop where
  css : ∀ e ∈ s.clockSyncs, Good s.nextSourceId s.sources e
  srcs : ∀ e ∈ s.sources, Good s.nextSourceId s.sources e
  chans : ∀ c ∈ s.channels, ChanWf s.nextSourceId s.sources c
  ents : ∀ e ∈ s.outputs.flatten.flatten, Good s.nextSourceId s.sources e

theorem WfInv.outs {s : Session} (h : WfInv s) :
    ∀ o ∈ s.outputs, ∀ w ∈ o, ∀ e ∈ w, EntryOk s.nextSourceId e ∧ (isSource e = true → e ∈ s.sources) :=
  fun o ho w hw e he => h.ents e (List.mem_flatten.mpr ⟨w, List.mem_flatten.mpr ⟨o, ho, hw⟩, he⟩)

/-- as `MetaInv.writers` -/
theorem WfInv.writers {s : Session} (h : WfInv s) {L : List Chan} {n : Nat} {wc : List (Nat × Nat)}
    {acc : List (Nat × Entry)} (hL : ∀ c ∈ L, ChanWf s.nextSourceId s.sources c) :
    WfInv { s with channels := L, nextCid := n, writerChan := wc, accepted := acc } :=
  ⟨h.css, h.srcs, hL, h.ents⟩

theorem wfInv_step (s : Session) (op : Op) (s' : Session) (h : WfInv s) (hok : OpOk s op)
    (hwf : OpWf op) (hstep : step s op = some s') : WfInv s' := by
  have happ : ∀ {sid clock : Nat} {args : Bytes}, EntryOk s.nextSourceId (.event sid clock args) →
      ∀ c, ChanWf s.nextSourceId s.sources c →
      ChanWf s.nextSourceId s.sources { c with entries := c.entries ++ [.event sid clock args] } :=
    fun he c hc =>
      ⟨hc.1, List.forall_mem_append.mpr ⟨hc.2, List.forall_mem_singleton.mpr ⟨he, fun hs => nomatch hs⟩⟩⟩
  have hnew : ∀ c : Chan, WpOk c.wp → c.entries = [] →
      ∀ c' ∈ s.channels ++ [c], ChanWf s.nextSourceId s.sources c' := fun c hwp hc =>
    List.forall_mem_append.mpr ⟨h.chans, List.forall_mem_singleton.mpr ⟨hwp, fun _ he => nomatch hc ▸ he⟩⟩
  revert hok hwf
  refine step_cases hstep ?createWriter ?setWriterId ?setWriterName ?addSource ?logFits ?logReplace ?destroyWriter
    ?setClockSync ?consume ?rotate
  case createWriter =>
    intro w id name _ hwf
    refine h.writers (forall_mem_map_upd (fun c hc => ?_) (forall_mem_map_upd (fun c hc => ?_)
      (hnew _ (by simp [WpOk]) rfl)))
    · split
      · exact ⟨⟨hc.1.1, hwf.2⟩, hc.2⟩
      · exact hc
    · split
      · exact ⟨⟨hwf.1, hc.1.2⟩, hc.2⟩
      · exact hc
  case setWriterId =>
    exact fun w id cid _ _ hwf => h.writers (forall_mem_map_upd (fun c hc => ⟨⟨hwf, hc.1.2⟩, hc.2⟩) h.chans)
  case setWriterName =>
    exact fun w name cid _ _ hwf => h.writers (forall_mem_map_upd (fun c hc => ⟨⟨hc.1.1, hwf⟩, hc.2⟩) h.chans)
  case addSource =>
    intro src _ hwf
    have hmono : ∀ {e}, Good s.nextSourceId s.sources e →
        Good (s.nextSourceId + 1) (s.sources ++ [.source { src with id := s.nextSourceId }]) e :=
      Good.mono (Nat.le_succ _) fun _ => List.mem_append_left _
    exact ⟨fun e he => hmono (h.css e he),
      List.forall_mem_append.mpr ⟨fun e he => hmono (h.srcs e he), List.forall_mem_singleton.mpr
        ⟨⟨Nat.lt_succ_self _, hwf.1, by unfold PayloadOk; rw [sourcePayload_length_id]; exact hwf.2⟩,
          fun _ => List.mem_append_right _ (List.mem_singleton_self _)⟩⟩,
      fun c hc => ⟨(h.chans c hc).1, fun e he => hmono ((h.chans c hc).2 e he)⟩, fun e he => hmono (h.ents e he)⟩
  case logFits =>
    exact fun w sid clock args cid _ hok hwf => h.writers (forall_mem_map_upd (happ ⟨hok.2, hwf⟩) h.chans)
  case logReplace =>
    -- closing the old channel changes nothing `ChanWf` reads
    exact fun w sid clock args cid old _ hfind hok hwf =>
      h.writers (forall_mem_map_upd (happ ⟨hok.2, hwf⟩) (forall_mem_map_upd (fun _ hc => hc)
        (hnew _ (h.chans old (List.mem_of_find?_eq_some hfind)).1 rfl)))
  case destroyWriter =>
    exact fun w cid _ _ _ => h.writers (forall_mem_map_upd (fun _ hc => hc) h.chans)
  case setClockSync =>
    exact fun cs _ hwf =>
      ⟨List.forall_mem_append.mpr ⟨h.css, List.forall_mem_singleton.mpr ⟨hwf, fun hs => nomatch hs⟩⟩,
        h.srcs, h.chans, h.ents⟩
  case consume =>
    -- the queues shrink; the output gains clock syncs, sources, writer descriptions (up to `batchSize`) and queued events
    intro polls _ _
    refine ⟨h.css, h.srcs, fun c hc => ?_, fun e he => ?_⟩
    · obtain ⟨x, hx, _, rfl⟩ := mem_pollAll_chans.mp hc
      have hx := h.chans x.1 (mem_polled hx)
      rw [pollChan_eq]
      exact ⟨by split <;> exact hx.1, fun e he => hx.2 e (List.mem_of_mem_drop he)⟩
    · rw [flatten_emit, List.flatten_append, consumeWrites_flatten] at he
      simp only [List.mem_append] at he
      rcases he with he | (he | he) | he
      · exact h.ents e he
      · split at he
        · exact h.css e he
        · cases he
      · exact h.srcs e (List.mem_of_mem_drop he)
      · rcases pollAll_writes_mem s.channels polls e he with ⟨c, hc, n, rfl⟩ | ⟨c, hc, hmem⟩
        · exact ⟨(h.chans c hc).1, fun hs => nomatch hs⟩
        · exact (h.chans c hc).2 e hmem
  case rotate =>
    intro _ _
    refine ⟨h.css, h.srcs, h.chans, fun e he => ?_⟩
    simp only [List.flatten_append, List.flatten_cons, List.flatten_nil, List.append_nil, List.mem_append] at he
    rcases he with he | he | he
    · exact h.ents e he
    · exact h.css e he
    · exact h.srcs e (List.mem_of_mem_take he)

theorem wfInv_init (cs : ClockSync) (h : cs.Wf ∧ PayloadOk (clockSyncPayload cs)) : WfInv (init cs) :=
  ⟨List.forall_mem_singleton.mpr ⟨h, fun hs => nomatch hs⟩, fun _ he => (nomatch he), fun _ hc => (nomatch hc),
    fun _ he => (nomatch he)⟩

theorem wfInv_exec (s0 : Session) (ops : List Op) (s : Session) (hw0 : WfInv s0)
    (hok : TraceOk s0 ops) (hwf : ∀ op ∈ ops, OpWf op) (hrun : exec s0 ops = some s) : WfInv s :=
  (exec_invariant (fun s ops => WfInv s ∧ TraceOk s ops ∧ ∀ op ∈ ops, OpWf op)
    (fun s op ops s1 h hs =>
      ⟨wfInv_step s op s1 h.1 h.2.1.1 (h.2.2 op (by simp)) hs, h.2.1.2 s1 hs, fun o ho => h.2.2 o (by simp [ho])⟩)
    ⟨hw0, hok, hwf⟩ hrun).1

end BinlogVerif.E2E

namespace BinlogVerif.Image
open BinlogVerif BinlogVerif.Sess BinlogVerif.E2E

/-- **A self-contained log reads the same after any other log.**  Reading `a ++ b` yields the items
    of `a` followed by the items `b` yields when read on its own (from the empty reader state; only
    the writer description in force at the end of `a` is carried over, until `b` has its own).
    For C08 with several live sessions in one image: their source ids overlap (each session counts
    from 1); what decides is that the definitions of a log precede its events and follow those of the
    logs before it. -/
theorem expectedItems_after (a b : List Entry) (hb : SelfContained b)
    (srcs : List EventSource) (wp : WriterProp) (cs : ClockSync) :
    expectedItems srcs wp cs (a ++ b) =
      expectedItems srcs wp cs a ++ expectedItems [] (wpAfter wp a) {} b := by
  obtain ⟨st', hs⟩ := Option.isSome_iff_exists.mp hb
  rw [expectedItems_append]
  exact congrArg (_ ++ ·) (expectedItems_scan _ hs (fun _ h => nomatch h) (fun h => nomatch h))

end BinlogVerif.Image
