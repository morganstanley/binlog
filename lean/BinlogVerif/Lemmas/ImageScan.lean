import BinlogVerif.Conc.Image
import BinlogVerif.Props.C20
namespace BinlogVerif.Image
open BinlogVerif BinlogVerif.Recovery
open BinlogVerif.C20 (scanBody scanBody_cases)

theorem scanBody_congr {k k' : Bytes → Outcome (List Recovered)} (r : Bytes)
    (h : ∀ l, l.length < r.length → k l = k' l) : scanBody k r = scanBody k' r := by
  rcases scanBody_cases r with h0 | ⟨l, hl, h1 | ⟨b, _, h1⟩⟩
  · rw [h0, h0]
  · rw [h1, h1, h l hl]
  · rw [h1, h1, h l hl]

theorem scan_fuel_stable {f1 f2 : Nat} (r : Bytes) (h1 : r.length < f1) (h2 : r.length < f2) :
    scan f1 r = scan f2 r := by
  induction f1 generalizing f2 r with
  | zero => omega
  | succ f1 ih =>
    cases f2 with
    | zero => omega
    | succ f2 => exact scanBody_congr r (fun l hl => ih l (by omega) (by omega))

/-- the scan with the fuel `recover` gives it -/
def scanAll (r : Bytes) : Outcome (List Recovered) := scan (r.length + 1) r

theorem scan_eq_scanAll (fuel : Nat) (r : Bytes) (h : r.length < fuel) : scan fuel r = scanAll r :=
  scan_fuel_stable r h (Nat.lt_succ_self _)

theorem scanAll_unfold (r : Bytes) : scanAll r = scanBody scanAll r :=
  scanBody_congr r (fun l hl => scan_eq_scanAll _ l hl)

theorem scanAll_short (r : Bytes) (h : r.length < 8) : scanAll r = .ok [] := by
  rw [scanAll_unfold]
  unfold scanBody
  have hdw := (List.dropWhile_sublist (· != firstMagicByte) (l := r)).length_le
  split
  · rfl
  · rename_i x after heq
    rw [heq, List.length_cons] at hdw
    rw [if_pos (by omega)]

/-- **The scan, position by position**: a candidate behind a magic number is collected and jumped over, or rejected
    (the scan resumes behind the magic number); any other byte is passed. -/
theorem scanAll_step (r : Bytes) : scanAll r =
    if r.take 8 = metadataMagic then
      match readMetadata (r.drop 8) with
      | some (b, n) => (scanAll (r.drop (8 + n))).map (b :: ·)
      | none => scanAll (r.drop 8)
    else if r.take 8 = dataMagic then
      match readData (r.drop 8) with
      | .error e => .error e
      | .ok (some (b, n)) => (scanAll (r.drop (8 + n))).map (b :: ·)
      | .ok none => scanAll (r.drop 8)
    else scanAll (r.drop 1) := by
  cases r with
  | nil => rfl
  | cons b r =>
    by_cases hb : b = firstMagicByte
    · subst hb
      rw [scanAll_unfold]
      unfold scanBody
      rw [List.dropWhile_cons_of_neg (by simp)]
      simp only [← List.drop_drop, List.take_succ_cons, List.drop_succ_cons, List.drop_zero]
      by_cases hl : r.length < 7
      · -- too short for a magic number
        have hne : ∀ m : Bytes, m.length = 8 → ¬ firstMagicByte :: r.take 7 = m := fun m hm e => by
          have := congrArg List.length e
          simp at this
          omega
        rw [if_pos hl, if_neg (hne _ rfl), if_neg (hne _ rfl), scanAll_short r (by omega)]
      · rw [if_neg hl]
        rfl
    · rw [if_neg fun e => hb (magic_head (.inl e)), if_neg fun e => hb (magic_head (.inr e)), List.drop_succ_cons, List.drop_zero,
        scanAll_unfold, scanAll_unfold r]
      unfold scanBody
      rw [List.dropWhile_cons_of_pos (by simpa using hb)]

theorem scanAll_noMagic (f rest : Bytes) (h : NoMagicIn f rest) : scanAll (f ++ rest) = scanAll rest := by
  induction f with
  | nil => rfl
  | cons b f ih =>
    rw [scanAll_step, if_neg fun e => h.1 (.inl e), if_neg fun e => h.1 (.inr e)]
    exact ih h.2

theorem take_le_append (n v : Nat) (x : Bytes) : (le n v ++ x).take n = le n v := List.take_left' (le_length n v)

theorem drop_le_append (n v k : Nat) (x : Bytes) : (le n v ++ x).drop (n + k) = x.drop k := by
  rw [← List.drop_drop, List.drop_left' (le_length n v)]

theorem readMetadata_block {session : Nat} {es : List Bytes} {tail : Bytes}
    (hs : session < 2 ^ 64) (hl : (frames es).length < 2 ^ 64) (hok : ∀ p ∈ es, PayloadOk p) :
    readMetadata (le 8 session ++ (le 8 (frames es).length ++ (frames es ++ tail)))
      = some (⟨.metadata, session, frames es⟩, 16 + (frames es).length) := by
  unfold readMetadata
  rw [if_neg (by simp only [List.length_append, le_length]; omega)]
  -- the offsets of the model as sums of field widths
  simp only [show (16 : Nat) = 8 + (8 + 0) from rfl, show List.drop 8 = List.drop (8 + 0) from rfl,
    drop_le_append, take_le_append, List.drop_zero, unle_le_of_lt 8 session hs, unle_le_of_lt 8 _ hl]
  rw [if_neg (by simp only [List.length_append]; omega), List.take_left' rfl, (C20.checkEntryBuffer_iff _).mpr ⟨es, rfl, hok⟩]
  rfl

theorem readData_block {session w e cap ptr rd : Nat} {buf tail : Bytes} {ps : List Bytes}
    (hs : session < 2 ^ 64) (hcap : cap < 2 ^ 64) (hlen : buf.length = cap) (hw : w ≤ cap) (he : e ≤ cap) (hr : rd ≤ cap)
    (hread : beginReadCopy buf w e rd = .ok (frames ps)) (hok : ∀ p ∈ ps, PayloadOk p) :
    readData (le 8 session ++ (le 8 w ++ (le 8 e ++ (le 8 cap ++ (le 8 ptr ++ (le 8 rd ++ (buf ++ tail)))))))
      = .ok (some (⟨.data, session, frames ps⟩, 48 + cap)) := by
  have b64 : ∀ v, v ≤ cap → v < 256 ^ 8 := fun v hv => Nat.lt_of_le_of_lt hv hcap
  unfold readData
  simp only [show (48 : Nat) = 8 + (8 + (8 + (8 + (8 + (8 + 0))))) from rfl, show (32 : Nat) = 8 + (8 + (8 + (8 + 0))) from rfl,
    show (16 : Nat) = 8 + (8 + 0) from rfl, show List.drop 8 = List.drop (8 + 0) from rfl,
    drop_le_append, take_le_append, List.drop_zero,
    unle_le_of_lt 8 session hs, unle_le_of_lt 8 w (b64 w hw), unle_le_of_lt 8 e (b64 e he),
    unle_le_of_lt 8 cap hcap, unle_le_of_lt 8 rd (b64 rd hr)]
  clear hs hcap b64
  rw [if_neg (by simp only [List.length_append, le_length]; omega), if_neg (by omega),
    if_neg (by simp only [List.length_append]; omega), List.take_left' hlen, hread]
  simp only [(C20.checkEntryBuffer_iff _).mpr ⟨ps, rfl, hok⟩, if_true]

/-- **The scan over a block**: it collects the buffer of a block that carries the magic and goes on
    in the part of the block it does not jump over. -/
theorem scanAll_piece (p : Piece) (rest : Bytes) (h : p.Sound) :
    scanAll (p.bytes ++ rest) = (scanAll (p.gap ++ rest)).map (p.recovered.toList ++ ·) := by
  have hid : ∀ x : Outcome (List Recovered), x = x.map ([] ++ ·) := fun x => by cases x <;> rfl
  have take8 : ∀ m x : Bytes, m.length = 8 → (m ++ x).take 8 = m := fun _ _ => List.take_left'
  cases p with
  | metaOn s es extra =>
    obtain ⟨hs, hl, hok⟩ := h
    simp only [Piece.bytes, metaBlock, if_true, List.append_assoc]
    rw [scanAll_step, if_pos (take8 _ _ rfl)]
    simp only [← List.drop_drop, List.drop_left' (l₁ := metadataMagic) (i := 8) rfl]
    rw [readMetadata_block hs hl hok]
    simp only
    rw [show 16 + (frames es).length = 8 + (8 + (frames es).length) from Nat.add_assoc 8 8 _, drop_le_append, drop_le_append,
      List.drop_left' rfl]
    rfl
  | chan s c =>
    by_cases hm : c.magicOn = true
    · obtain ⟨hs, hcap, hlen, hw, he, hr, hread, hok⟩ := h hm
      simp only [Piece.bytes, ChanImage.block, chanBlock, hm, if_true, List.append_assoc]
      rw [scanAll_step, if_neg (by rw [take8 _ _ rfl]; decide), if_pos (take8 _ _ rfl)]
      simp only [← List.drop_drop, List.drop_left' (l₁ := dataMagic) (i := 8) rfl]
      rw [readData_block hs hcap hlen hw he hr hread hok]
      simp only
      rw [show 48 + c.cap = 8 + (8 + (8 + (8 + (8 + (8 + c.cap))))) by simp only [← Nat.add_assoc]]
      simp only [drop_le_append]
      rw [List.drop_left' hlen]
      simp [Piece.recovered, Piece.gap, hm]
    · simp only [Piece.recovered, Piece.gap, hm]
      exact hid _
  | off bs => exact hid _

/-- none of the seven bytes behind the first of a magic number starts a magic number (what `ImageOkI` relies on) -/
theorem scanAll_magic_tail (r : Bytes) (h : StartsMagic r) : scanAll (r.drop 1) = scanAll (r.drop 8) := by
  obtain ⟨body, hr⟩ : ∃ body, r = metadataMagic ++ body ∨ r = dataMagic ++ body :=
    ⟨r.drop 8, h.imp (fun h => by rw [← h, List.take_append_drop]) (fun h => by rw [← h, List.take_append_drop])⟩
  rcases hr with rfl | rfl
  · rw [metadataMagic_eq]
    exact scanAll_noMagic [0xBD, 0x35, 0x6E, 0x72, 0x4F, 0x21, 0xFE] body (noMagicIn_of_fillerOk (by decide))
  · rw [dataMagic_eq]
    refine scanAll_noMagic [0xBC, 0x34, 0x6D, 0x71, 0x3F, 0x21, 0xFE] body ⟨?_, noMagicIn_of_fillerOk (by decide)⟩
    simp [dataMagic_eq, metadataMagic_eq, StartsMagic]

/-- a rejected candidate counts as a step of one byte: the scan resumes 8 bytes later, with the same
    result (`scanAll_magic_tail`) -/
theorem scanAll_inertEAt (b : UInt8) (r : Bytes) (room : Nat) (h : InertEAt (b :: r) room) :
    scanAll (b :: r) = scanAll r ∨ ∃ bj n, bj.buffer = [] ∧ 8 + n ≤ room ∧
      scanAll (b :: r) = (scanAll ((b :: r).drop (8 + n))).map (bj :: ·) := by
  rw [scanAll_step (b :: r)]
  by_cases hm : (b :: r).take 8 = metadataMagic
  · rw [if_pos hm]
    rcases h.1 hm with hn | ⟨bj, n, hb, he, hr⟩
    · rw [hn]; exact .inl (scanAll_magic_tail _ (.inl hm)).symm
    · rw [hb]; exact .inr ⟨bj, n, he, hr, rfl⟩
  rw [if_neg hm]
  by_cases hd : (b :: r).take 8 = dataMagic
  · rw [if_pos hd]
    rcases h.2 hd with hn | ⟨bj, n, hb, he, hr⟩
    · rw [hn]; exact .inl (scanAll_magic_tail _ (.inr hd)).symm
    · rw [hb]; exact .inr ⟨bj, n, he, hr, rfl⟩
  · rw [if_neg hd]
    exact .inl rfl

theorem scanAll_skip_inert (f rest : Bytes) (h : Inert f rest) : scanAll (f ++ rest) = scanAll rest := by
  induction f with
  | nil => rfl
  | cons b f ih =>
    obtain ⟨h1, h2⟩ := (inert_cons b f rest).mp h
    rw [List.cons_append, (scanAll_inertEAt b _ 0 h1).resolve_right fun ⟨_, _, _, hn, _⟩ => by omega]
    exact ih h2

theorem flat_cons (f : Bytes) (p : Piece) (rest : List (Bytes × Piece)) (t : Bytes) :
    flat ((f, p) :: rest) t = f ++ (p.bytes ++ flat rest t) := by
  simp [flat, List.append_assoc]

theorem expected_cons (f : Bytes) (p : Piece) (rest : List (Bytes × Piece)) :
    expected ((f, p) :: rest) = p.recovered.toList ++ expected rest := by
  simp only [expected, List.filterMap_cons]
  cases p.recovered <;> rfl

theorem expected_append (a b : List (Bytes × Piece)) : expected (a ++ b) = expected a ++ expected b := by
  simp [expected, List.filterMap_append]

theorem scanAll_image_inert (img : List (Bytes × Piece)) (t : Bytes) (h : ImageOkI img t) :
    scanAll (flat img t) = .ok (expected img) := by
  induction img with
  | nil =>
    rw [show flat [] t = t ++ [] from (List.append_nil t).symm, scanAll_skip_inert t [] h]
    rfl
  | cons x rest ih =>
    obtain ⟨f, p⟩ := x
    obtain ⟨h1, h2, h3⟩ := h
    obtain ⟨hs, hg⟩ := Piece.okI_iff.mp h2
    rw [flat_cons, scanAll_skip_inert _ _ h1, scanAll_piece p _ hs, scanAll_skip_inert _ _ hg, ih h3, expected_cons]
    rfl

theorem scanAll_image (img : List (Bytes × Piece)) (t : Bytes) (h : ImageOk img t) :
    scanAll (flat img t) = .ok (expected img) :=
  scanAll_image_inert img t (imageOkI_of_imageOk h)

end BinlogVerif.Image
