import BinlogVerif.Lemmas.VisitRender
import BinlogVerif.Lemmas.StrBytes
/-
  The structs `PrettyPrinter::printStruct` prints specially (binlog's own adapters), as far as their names are
  `NameOk`: durations have template-id names and are outside the universe of the C06/C07 proofs;
  `system_clock::time_point` needs the clock sync and is not covered.

  `declines n tag` is a Bool mirror of `printStruct`'s tests (it declines the struct); `specialOk t`: every struct of
  the type is exactly one of those adapters (`specialShape`) or declined: then the pretty printer's behaviour is
  determined by the type alone, and what it prints is `renderPP` (Mser/Spec.lean).  `specialShape` has no duration
  case; `declines` and `specialStruct` have one because `printStruct` does, and `special_none` has to go through it.
-/
namespace BinlogVerif.Mser
open BinlogVerif BinlogVerif.Tag BinlogVerif.Visit BinlogVerif.Pretty

/-- the struct names `PrettyPrinter::printStruct` may render specially (whatever the fields are) -/
def specialName (n : Bytes) : Bool :=
  n == strBytes "binlog::address" || n == strBytes "std::chrono::system_clock::time_point"
    || startsWith n (strBytes "std::chrono::duration<Rep,")
    || n == strBytes "std::filesystem::path" || n == strBytes "std::filesystem::directory_entry"
    || n == strBytes "std::error_code"

/- no struct occurring in the type has a specially rendered name -/
mutual
def noSpecialStruct : Ty → Bool
  | .arith _ => true
  | .seq e => noSpecialStruct e
  | .tup es => noSpecialStructList es
  | .var alts => noSpecialStructList alts
  | .null => true
  | .enum _ _ _ => true
  | .struct n fs => !specialName n && noSpecialStructFields fs
def noSpecialStructList : List Ty → Bool
  | [] => true
  | t :: ts => noSpecialStruct t && noSpecialStructList ts
def noSpecialStructFields : List (Bytes × Ty) → Bool
  | [] => true
  | (_, t) :: fs => noSpecialStruct t && noSpecialStructFields fs
end

def nAddress : Bytes := strBytes "binlog::address"
def nPath : Bytes := strBytes "std::filesystem::path"
def nDirent : Bytes := strBytes "std::filesystem::directory_entry"
def nErrorCode : Bytes := strBytes "std::error_code"
def nTimePoint : Bytes := strBytes "std::chrono::system_clock::time_point"

def specialShape (n : Bytes) (fs : List (Bytes × Ty)) : Bool :=
  match fs with
  | [(f, .arith c)] => n == nAddress && f == strBytes "value" && c == 76
  | [(f, .seq (.arith c))] => c == 99 && ((n == nPath && f == strBytes "str") || (n == nErrorCode && f == strBytes "message"))
  | [(f, .struct pn [(g, .seq (.arith c))])] => c == 99 && n == nDirent && f == strBytes "path" && pn == nPath && g == strBytes "str"
  | _ => false

def declines (n tag : Bytes) : Bool :=
  !(n == nAddress && tag == strBytes "`value'L")
  && !(n == nTimePoint && tag == strBytes "`ns'l")
  && !((durationSuffix n).isSome && (tag == strBytes "`count'l" || tag == strBytes "`count'i"))
  && !((n == nPath && tag == strBytes "`str'[c")
       || (n == nDirent && tag == strBytes "`path'{std::filesystem::path`str'[c}")
       || (n == nErrorCode && tag == strBytes "`message'[c"))

mutual
def specialOk : Ty → Bool
  | .arith _ => true
  | .seq e => specialOk e
  | .tup es => specialOkList es
  | .var alts => specialOkList alts
  | .null => true
  | .enum _ _ _ => true
  | .struct n fs => specialShape n fs || (declines n (tagFields fs) && specialOkFields fs)
def specialOkList : List Ty → Bool
  | [] => true
  | t :: ts => specialOk t && specialOkList ts
def specialOkFields : List (Bytes × Ty) → Bool
  | [] => true
  | (_, t) :: fs => specialOk t && specialOkFields fs
end

theorem printStruct_declines (p : TimePrinter) {n tag : Bytes} (input : Bytes) (h : declines n tag = true) :
    printStruct p n tag input = .ok none := by
  simp only [declines, nAddress, nTimePoint, nPath, nDirent, nErrorCode, Bool.and_eq_true, Bool.not_eq_true',
    ← Bool.not_eq_true, Bool.or_eq_true, beq_iff_eq, or_assoc] at h
  obtain ⟨⟨⟨e1, e2⟩, e3⟩, e4⟩ := h
  unfold printStruct
  -- `printStruct` writes the chain of `durationSuffix` out: its equation, from right to left, folds it
  simp only [if_neg e1, if_neg e2, ← durationSuffix.eq_def]
  cases hd : durationSuffix n with
  | none => simp only [if_neg e4]
  | some suf =>
    rw [hd] at e3
    simp only [if_neg (fun e => e3 ⟨rfl, .inl e⟩), if_neg (fun e => e3 ⟨rfl, .inr e⟩), if_neg e4]

theorem specialShape_cases (n : Bytes) (fs : List (Bytes × Ty)) (h : specialShape n fs = true) :
    (∃ f c, fs = [(f, .arith c)]) ∨ (∃ f c, fs = [(f, .seq (.arith c))]) ∨
    (∃ f pn g c, fs = [(f, .struct pn [(g, .seq (.arith c))])]) := by
  unfold specialShape at h
  split at h
  · exact Or.inl ⟨_, _, rfl⟩
  · exact Or.inr (Or.inl ⟨_, _, rfl⟩)
  · exact Or.inr (Or.inr ⟨_, _, _, _, rfl⟩)
  · cases h

theorem printStruct_address (p : TimePrinter) (input : Bytes) :
    printStruct p nAddress (strBytes "`value'L") input =
      match readU 8 input with
      | .error e => .error e
      | .ok (v, rest) => .ok (some (strBytes "0x" ++ hexDigitsUpper v, rest)) :=
  if_pos ⟨rfl, rfl⟩

/-- the three adapters printed as their string -/
theorem printStruct_string (p : TimePrinter) {n tag : Bytes} {v : Val} (rest : Bytes)
    (h : (n = nPath ∧ tag = strBytes "`str'[c")
      ∨ (n = nDirent ∧ tag = strBytes "`path'{std::filesystem::path`str'[c}")
      ∨ (n = nErrorCode ∧ tag = strBytes "`message'[c"))
    (hv : hasTy (.seq (.arith 99)) v = true) :
    ∃ cs, v = .seq cs ∧
      printStruct p n tag (le 4 cs.length ++ encodeAll (.arith 99) cs ++ rest) = .ok (some (charsOf cs, rest)) := by
  cases v <;> simp only [hasTy, Bool.and_eq_true, decide_eq_true_eq, Bool.false_eq_true] at hv
  rename_i cs
  refine ⟨cs, rfl, ?_⟩
  simp only [nPath, nDirent, nErrorCode] at h
  have hd : n ≠ strBytes "binlog::address" ∧ n ≠ strBytes "std::chrono::system_clock::time_point"
      ∧ durationSuffix n = none := by
    rcases h with ⟨rfl, -⟩ | ⟨rfl, -⟩ | ⟨rfl, -⟩ <;> simp only [durationSuffix, startsWith, strBytes_eq] <;> decide
  unfold printStruct
  rw [if_neg (fun e => hd.1 e.1), if_neg (fun e => hd.2.1 e.1)]
  simp only [← durationSuffix.eq_def, hd.2.2]
  rw [if_pos h, encodeAll_char cs hv.1, List.append_assoc, readU_le_append 4 cs.length _ hv.2]
  simp only [takeN_append cs.length (charsOf cs) rest (by simp [charsOf])]

theorem special_handled (p : TimePrinter) {n : Bytes} {fs : List (Bytes × Ty)} {vs : List Val} (rest : Bytes)
    (hs : specialShape n fs = true) (hv : hasTyFields fs vs = true) :
    ∃ b, specialStruct n fs vs = some b ∧
      printStruct p n (tagFields fs) (encodeFields fs vs ++ rest) = .ok (some (b, rest)) := by
  rcases specialShape_cases n fs hs with ⟨f, c, rfl⟩ | ⟨f, c, rfl⟩ | ⟨f, pn, g, c, rfl⟩
  · simp only [specialShape, Bool.and_eq_true, beq_iff_eq] at hs
    obtain ⟨⟨rfl, rfl⟩, rfl⟩ := hs
    obtain ⟨v, rfl, hv1⟩ := hasTyFields_single hv
    have hsz : arithSize 76 = some 8 := by decide
    cases v <;> simp only [hasTy, hsz, decide_eq_true_eq, Bool.false_eq_true] at hv1
    rename_i raw
    have htag : tagFields [(strBytes "value", Ty.arith 76)] = strBytes "`value'L" := by
      simp only [strBytes_eq]; decide
    refine ⟨_, by rw [specialStruct]; exact if_pos ⟨rfl, rfl, rfl⟩, ?_⟩
    rw [htag, printStruct_address]
    simp only [encodeFields, encode, hsz, Option.getD_some, List.append_nil, readU_le_append 8 raw rest hv1]
  · simp only [specialShape, Bool.and_eq_true, beq_iff_eq, Bool.or_eq_true] at hs
    obtain ⟨rfl, hs⟩ := hs
    obtain ⟨v, rfl, hv1⟩ := hasTyFields_single hv
    obtain ⟨cs, rfl, hread⟩ := printStruct_string p (n := n) (tag := tagFields [(f, .seq (.arith 99))]) rest (by
        rcases hs with ⟨rfl, rfl⟩ | ⟨rfl, rfl⟩
        · exact .inl ⟨rfl, by simp only [strBytes_eq]; decide⟩
        · exact .inr (.inr ⟨rfl, by simp only [strBytes_eq]; decide⟩)) hv1
    exact ⟨_, by rw [specialStruct]; exact if_pos hs,
      by simpa only [encodeFields, encode, List.append_nil] using hread⟩
  · simp only [specialShape, Bool.and_eq_true, beq_iff_eq] at hs
    obtain ⟨⟨⟨⟨rfl, rfl⟩, rfl⟩, rfl⟩, rfl⟩ := hs
    obtain ⟨v, rfl, hv1⟩ := hasTyFields_single hv
    cases v <;> simp only [hasTy, Bool.false_eq_true] at hv1
    obtain ⟨v, rfl, hv2⟩ := hasTyFields_single hv1
    obtain ⟨cs, rfl, hread⟩ := printStruct_string p rest
      (.inr (.inl ⟨rfl, (by simp only [nPath, strBytes_eq]; decide :
        tagFields [(strBytes "path", .struct nPath [(strBytes "str", .seq (.arith 99))])] = _)⟩)) hv2
    exact ⟨_, by rw [specialStruct]; exact if_pos ⟨rfl, rfl, rfl, rfl⟩,
      by simpa only [encodeFields, encode, List.append_nil] using hread⟩

theorem special_none {n : Bytes} {fs : List (Bytes × Ty)} (vs : List Val)
    (hs : specialShape n fs = false) (hd : declines n (tagFields fs) = true) : specialStruct n fs vs = none := by
  unfold specialStruct
  -- in each alternative the test is that of `specialShape` on this form of `fs`, but for the durations
  split
  · rename_i f c raw
    rw [if_neg (by simpa [specialShape, nAddress] using hs)]
    cases hdur : durationSuffix n with
    | none => rfl
    | some suf =>
      simp only [declines, hdur, Option.isSome_some, Bool.true_and, Bool.and_eq_true, Bool.not_eq_true',
        Bool.or_eq_false_iff, beq_eq_false_iff_ne, ne_eq] at hd
      obtain ⟨⟨_, hl, hi⟩, _⟩ := hd
      have t1 : ¬ (f = strBytes "count" ∧ c = 108) := fun ⟨a, b⟩ =>
        hl (by subst a b; simp only [strBytes_eq]; decide)
      have t2 : ¬ (f = strBytes "count" ∧ c = 105) := fun ⟨a, b⟩ =>
        hi (by subst a b; simp only [strBytes_eq]; decide)
      simp only [if_neg t1, if_neg t2]
  · rw [if_neg (by simpa [specialShape, nPath, nErrorCode] using hs)]
  · rw [if_neg (by simpa [specialShape, nDirent, nPath] using hs)]
  · rfl

theorem specialName_false {n : Bytes} (h : specialName n = false) :
    (∀ fs, specialShape n fs = false) ∧ ∀ tag, declines n tag = true := by
  simp only [specialName, Bool.or_eq_false_iff, beq_eq_false_iff_ne, ne_eq] at h
  obtain ⟨⟨⟨⟨⟨h1, h2⟩, h3⟩, h4⟩, h5⟩, h6⟩ := h
  have hd : durationSuffix n = none := by simp [durationSuffix, h3]
  constructor
  · intro fs
    unfold specialShape
    split <;> simp [nAddress, nPath, nErrorCode, nDirent, h1, h4, h5, h6]
  · intro tag
    simp [declines, nAddress, nTimePoint, nPath, nDirent, nErrorCode, h1, h2, h4, h5, h6, hd]

mutual
theorem noSpecial_ok {t : Ty} (h : noSpecialStruct t = true) :
    specialOk t = true ∧ (∀ v, renderPP t v = render t v) ∧ ∀ vs, renderPPAll t vs = renderAll t vs := by
  suffices h2 : specialOk t = true ∧ ∀ v, renderPP t v = render t v from
    ⟨h2.1, h2.2, fun vs => by
      induction vs with
      | nil => simp [renderPPAll, renderAll]
      | cons v vs ih => simp [renderPPAll, renderAll, h2.2, ih]⟩
  cases t with
  | arith _ | null | enum _ _ _ => exact ⟨rfl, fun v => by cases v <;> simp only [renderPP.eq_def, render.eq_def]⟩
  | seq e =>
    obtain ⟨ho, hr, hall⟩ := noSpecial_ok (t := e) h
    refine ⟨ho, fun v => ?_⟩
    cases v with
    | seq vs => cases vs <;> rewrite [renderPP, render] <;> simp only [hall, hr, charsOf]
    | _ => simp only [renderPP.eq_def, render.eq_def]
  | tup es | var es =>
    obtain ⟨ho, hr, hn⟩ := noSpecial_okList (es := es) h
    exact ⟨ho, fun v => by cases v <;> simp only [renderPP.eq_def, render.eq_def, hr, hn]⟩
  | struct n fs =>
    simp only [noSpecialStruct, Bool.and_eq_true, Bool.not_eq_true'] at h
    obtain ⟨ho, hr⟩ := noSpecial_okFields h.2
    obtain ⟨hs, hd⟩ := specialName_false h.1
    refine ⟨by simp [specialOk, hs, hd, ho], fun v => ?_⟩
    cases v <;> simp only [renderPP.eq_def, render.eq_def, special_none _ (hs fs) (hd _), hr]
theorem noSpecial_okList {es : List Ty} (h : noSpecialStructList es = true) :
    specialOkList es = true ∧ (∀ vs, renderPPList es vs = renderList es vs)
      ∧ ∀ i v, renderPPNth es i v = renderNth es i v := by
  cases es with
  | nil => exact ⟨rfl, fun vs => by simp [renderPPList, renderList], fun i v => by simp [renderPPNth, renderNth]⟩
  | cons t ts =>
    simp only [noSpecialStructList, Bool.and_eq_true] at h
    obtain ⟨ho, hr, _⟩ := noSpecial_ok h.1
    obtain ⟨hos, hrs, hn⟩ := noSpecial_okList h.2
    exact ⟨by simp [specialOkList, ho, hos], fun vs => by cases vs <;> rw [renderPPList.eq_def, renderList.eq_def] <;> simp only [hr, hrs],
      fun i v => by cases i <;> rw [renderPPNth.eq_def, renderNth.eq_def] <;> simp only [hr, hn]⟩
theorem noSpecial_okFields {fs : List (Bytes × Ty)} (h : noSpecialStructFields fs = true) :
    specialOkFields fs = true ∧ ∀ vs, renderPPFields fs vs = renderFields fs vs := by
  cases fs with
  | nil => exact ⟨rfl, fun vs => by simp [renderPPFields, renderFields]⟩
  | cons a fs =>
    obtain ⟨n, t⟩ := a
    simp only [noSpecialStructFields, Bool.and_eq_true] at h
    obtain ⟨ho, hr, _⟩ := noSpecial_ok h.1
    obtain ⟨hos, hrs⟩ := noSpecial_okFields h.2
    exact ⟨by simp [specialOkFields, ho, hos], fun vs => by cases vs <;> rw [renderPPFields.eq_def, renderFields.eq_def] <;> simp only [hr, hrs]⟩
end

end BinlogVerif.Mser
