import BinlogVerif.Lemmas.QueueProd
import BinlogVerif.Lemmas.QueueCons
namespace BinlogVerif.Q

theorem inv_step (o : Orders) (ho : o.Sufficient) (s : St) (op : Op) (s' : St)
    (h : Inv s) (e : step o s op = some s') : Inv s' := by
  cases op with
  | pBegin n j => exact inv_pBegin o ho h e
  | pWrite k => exact inv_pWrite h e
  | pEnd => exact inv_pEnd o ho h e
  | cBegin i => obtain ⟨_, _, _, _, -, -, -, h'⟩ := cBegin_some o ho h e; exact h'
  | cEnd => exact inv_cEnd o ho h e

theorem inv_exec (o : Orders) (ho : o.Sufficient) (cap : Nat) (tr : List Op) (s : St)
    (run : exec o (init cap) tr = some s) : Inv s :=
  exec_invariant o Inv (inv_step o ho) tr (init cap) s (inv_init cap) run

end BinlogVerif.Q
