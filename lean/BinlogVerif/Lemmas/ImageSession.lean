import BinlogVerif.Lemmas.ImageContent
import BinlogVerif.Lemmas.SessionDeliver
/-
  Lemmas for C08: a memory image relative to a state of the session model (Conc/Session.lean).
-/
namespace BinlogVerif.Image
open BinlogVerif BinlogVerif.Recovery BinlogVerif.Sess

/-- what a block of the image is, relative to an L1 state `s` -/
inductive Item where
  /-- a block of the clock-sync stream that carries the magic; `extra` = bytes behind the size field -/
  | clockSyncs (extra : Bytes)
  /-- a block of the event-source stream that carries the magic -/
  | sources (extra : Bytes)
  /-- the queue of channel `c`; `pre` = events the consumer has already written out but not
      released yet (the read index is advanced after the write) -/
  | chan (c : Chan) (pre : List Entry) (ci : ChanImage)
  /-- a block whose magic is zero -/
  | off (bytes : Bytes)

def Item.piece (s : Session) (sess : Nat) : Item → Piece
  | .clockSyncs extra => .metaOn sess (s.clockSyncs.map Entry.payload) extra
  | .sources extra => .metaOn sess (s.sources.map Entry.payload) extra
  | .chan _ _ ci => .chan sess ci
  | .off bs => .off bs

def Item.metaEntries (s : Session) : Item → List Entry
  | .clockSyncs _ => s.clockSyncs
  | .sources _ => s.sources
  | _ => []

def Item.chanEntries : Item → List Entry
  | .chan c pre ci => if ci.magicOn then pre ++ c.entries else []
  | _ => []

def toImage (s : Session) (sess : Nat) (items : List (Bytes × Item)) : List (Bytes × Piece) :=
  items.map fun x => (x.1, x.2.piece s sess)

/-- the log the recovery tool is to produce, as entries -/
def recoveredLog (s : Session) (items : List (Bytes × Item)) : List Entry :=
  items.flatMap (·.2.metaEntries s) ++ items.flatMap (·.2.chanEntries)

/-- The image holds the state `s`: each queue that carries the magic holds the unconsumed entries of
    its channel (possibly preceded by events its writer logged earlier and the consumer has not
    released yet; a queue of a channel the consumer has already removed holds nothing else); at
    least one block of each metadata stream carries the magic; every channel that has entries has
    a queue with the magic in the image. -/
structure Represents (s : Session) (items : List (Bytes × Item)) : Prop where
  chanOk : ∀ x ∈ items, ∀ c pre ci, x.2 = Item.chan c pre ci → ci.magicOn = true →
      (c ∈ s.channels ∨ c.entries = []) ∧ ci.pending = (pre ++ c.entries).map Entry.payload ∧
      ∀ e ∈ pre, (c.owner, e) ∈ s.accepted
  hasCS : ∃ x ∈ items, ∃ extra, x.2 = Item.clockSyncs extra
  hasSrc : ∃ x ∈ items, ∃ extra, x.2 = Item.sources extra
  allChans : ∀ c ∈ s.channels, c.entries ≠ [] → ∃ x ∈ items, ∃ pre ci, x.2 = Item.chan c pre ci ∧ ci.magicOn = true

theorem toImage_one_session (s : Session) (sess : Nat) (items : List (Bytes × Item)) :
    ∀ b ∈ expected (toImage s sess items), b.session = sess := by
  intro b hb
  obtain ⟨x, hx, hr⟩ := List.mem_filterMap.mp hb
  obtain ⟨y, _, rfl⟩ := List.mem_map.mp hx
  obtain ⟨f, it⟩ := y
  cases it <;> simp only [Item.piece, Piece.recovered] at hr
  case chan c pre ci => split at hr <;> cases hr <;> rfl
  all_goals first | (cases hr; rfl) | cases hr

theorem toImage_metaPayloads (s : Session) (sess : Nat) (items : List (Bytes × Item)) :
    metaPayloads (toImage s sess items) = (items.flatMap (·.2.metaEntries s)).map Entry.payload := by
  have hp : ∀ it : Item, (it.piece s sess).metaPayloads = (it.metaEntries s).map Entry.payload := fun it => by cases it <;> rfl
  simp only [metaPayloads, toImage, List.flatMap_map, List.map_flatMap, hp]

theorem toImage_chanPayloads (s : Session) (sess : Nat) (items : List (Bytes × Item)) (hrep : Represents s items) :
    chanPayloads (toImage s sess items) = (items.flatMap (·.2.chanEntries)).map Entry.payload := by
  simp only [chanPayloads, toImage, List.flatMap_map, List.map_flatMap]
  rw [List.flatMap_def, List.flatMap_def]
  refine congrArg List.flatten (List.map_congr_left fun x hx => ?_)
  obtain ⟨f, it⟩ := x
  cases it with
  | chan c pre ci =>
    by_cases hm : ci.magicOn = true
    · simp [Item.piece, Piece.chanPayloads, Item.chanEntries, hm, (hrep.chanOk _ hx c pre ci rfl hm).2.1]
    · simp [Item.piece, Piece.chanPayloads, Item.chanEntries, hm]
  | _ => rfl

theorem toImage_sorted_buffers (s : Session) (sess : Nat) (items : List (Bytes × Item)) (hrep : Represents s items) :
    (((expected (toImage s sess items)).mergeSort bufLe).map (·.buffer)).flatten = writeBytes (recoveredLog s items) := by
  rw [one_session_output _ sess (toImage_one_session s sess items), toImage_metaPayloads, toImage_chanPayloads s sess items hrep]
  simp [writeBytes, recoveredLog]

/-- a queue with the magic holds events only, each with a source id that `addEventSource` has returned -/
theorem chanEntries_valid (s : Session) (items : List (Bytes × Item)) (hm : MetaInv s) (ha : AccValid s)
    (hr : Represents s items) (x : Bytes × Item) (hx : x ∈ items) (e : Entry) (he : e ∈ x.2.chanEntries) :
    EventOk s.nextSourceId e := by
  obtain ⟨f, it⟩ := x
  cases it with
  | chan c pre ci =>
    simp only [Item.chanEntries] at he
    split at he
    · rename_i hmag
      obtain ⟨hc, _, hpre⟩ := hr.chanOk _ hx c pre ci rfl hmag
      rcases List.mem_append.mp he with he | he
      · exact ha (c.owner, e) (hpre e he)
      · rcases hc with hc | hc
        · exact hm.chans c hc e he
        · rw [hc] at he; cases he
    · cases he
  | _ => cases he

/-- C08.4 (b) -/
theorem recoveredLog_selfContained (s : Session) (items : List (Bytes × Item)) (hm : MetaInv s) (ha : AccValid s)
    (hr : Represents s items) : SelfContained (recoveredLog s items) := by
  obtain ⟨x, hx, _, hit⟩ := hr.hasCS
  obtain ⟨y, hy, _, hjt⟩ := hr.hasSrc
  refine selfContained_meta_events _ _ (fun e he => ?_) ?_ (fun e he => ?_)
  · obtain ⟨⟨f, it⟩, _, he⟩ := List.mem_flatMap.mp he
    cases it
    · exact noEvents_of_css hm.css_are e he
    · exact noEvents_of_sources hm.srcs_are e he
    all_goals cases he
  · obtain ⟨e, he⟩ := List.exists_mem_of_ne_nil _ hm.css_ne
    obtain ⟨cs, rfl⟩ := hm.css_are e he
    exact List.any_eq_true.mpr ⟨_, List.mem_flatMap.mpr ⟨x, hx, by rw [hit]; exact he⟩, rfl⟩
  · obtain ⟨z, hz, he⟩ := List.mem_flatMap.mp he
    obtain ⟨sid, clock, args, rfl, h1, h2⟩ := chanEntries_valid s items hm ha hr z hz e he
    obtain ⟨src, hsrc, hid⟩ := List.mem_filterMap.mp (mem_srcIds_range hm sid h1 h2)
    exact ⟨sid, clock, args, rfl, List.mem_filterMap.mpr ⟨src, List.mem_flatMap.mpr ⟨y, hy, by rw [hjt]; exact hsrc⟩, hid⟩⟩

/-- C08.4 (c) -/
theorem chan_infix (s : Session) (items : List (Bytes × Item)) (x : Bytes × Item) (hx : x ∈ items)
    (c : Chan) (pre : List Entry) (ci : ChanImage) (hit : x.2 = Item.chan c pre ci) (hm : ci.magicOn = true) :
    (pre ++ c.entries) <:+: recoveredLog s items := by
  have hx' : x.2.chanEntries = pre ++ c.entries := by rw [hit]; simp [Item.chanEntries, hm]
  have h : x.2.chanEntries <:+: items.flatMap (·.2.chanEntries) := List.infix_of_mem_flatten (List.mem_map_of_mem hx)
  exact hx' ▸ h.trans (List.suffix_append _ _).isInfix

/-- C08.4 (a) -/
theorem entries_infix (s : Session) (items : List (Bytes × Item)) (hr : Represents s items)
    (c : Chan) (hc : c ∈ s.channels) : c.entries <:+: recoveredLog s items := by
  by_cases hne : c.entries = []
  · rw [hne]; exact List.nil_infix
  · obtain ⟨x, hx, pre, ci, hit, hm⟩ := hr.allChans c hc hne
    exact (List.suffix_append pre c.entries).isInfix.trans (chan_infix s items x hx c pre ci hit hm)

/-- C08.4 (a), with C02 (`hord`) -/
theorem accepted_delivered_or_recovered (s : Session) (items : List (Bytes × Item)) (hr : Represents s items)
    (hord : ∀ w, ofW w s.accepted = ofW w s.delivered ++ pendingOf w s.channels) (w : Nat) (e : Entry)
    (h : e ∈ ofW w s.accepted) : e ∈ ofW w s.delivered ∨ e ∈ recoveredLog s items := by
  rw [hord w, List.mem_append] at h
  refine h.imp_right fun h => ?_
  simp only [pendingOf, List.mem_flatMap, List.mem_filter] at h
  obtain ⟨c, ⟨hc, _⟩, he⟩ := h
  exact (entries_infix s items hr c hc).subset he

/-- the items of a stream: `mk` for the blocks that carry the magic -/
def MetaState.items (mk : Bytes → Item) (sess : Nat) : MetaState → List Item
  | .stable _ slack => [mk slack]
  | .inserted _ extra => [mk extra]
  | .growingNoMagic _ slackOld n content => [mk slackOld, .off (metaBlock false sess n content)]
  | .growingBoth _ a b => [mk a, mk b]
  | .growingOldCleared es a b => [.off (metaBlock false sess (frames es).length (frames es ++ a)), mk b]

theorem MetaState.items_pieces (st : MetaState) (mk : Bytes → Item) (s : Session) (sess : Nat)
    (hmk : ∀ extra, (mk extra).piece s sess = .metaOn sess st.committed extra) :
    (st.items mk sess).map (Item.piece s sess) = st.pieces sess := by
  cases st <;> simp only [MetaState.items, MetaState.pieces, List.map, hmk] <;> rfl

theorem MetaState.items_spec (st : MetaState) (mk : Bytes → Item) (sess : Nat) :
    (∃ extra, mk extra ∈ st.items mk sess) ∧ ∀ it ∈ st.items mk sess, (∃ extra, it = mk extra) ∨ ∃ bs, it = Item.off bs := by
  constructor
  · cases st <;> first | exact ⟨_, List.mem_cons_self ..⟩ | exact ⟨_, List.mem_cons_of_mem _ (List.mem_cons_self ..)⟩
  · intro it hit
    cases st <;> simp only [MetaState.items, List.mem_cons, List.not_mem_nil, or_false] at hit <;>
      rcases hit with rfl | rfl <;> first | exact .inl ⟨_, rfl⟩ | exact .inr ⟨_, rfl⟩

/-- an image whose blocks are, in any order, those of the two metadata streams in states `csSt`, `srcSt` and `others`
    (queues, blocks without magic) holds `s` -/
theorem represents_of_states (s : Session) (sess : Nat) (csSt srcSt : MetaState) (others : List Item)
    (items : List (Bytes × Item))
    (hperm : (items.map (·.2)).Perm (csSt.items Item.clockSyncs sess ++ srcSt.items Item.sources sess ++ others))
    (hchan : ∀ c pre ci, Item.chan c pre ci ∈ others → ci.magicOn = true →
      (c ∈ s.channels ∨ c.entries = []) ∧ ci.pending = (pre ++ c.entries).map Entry.payload ∧
      ∀ e ∈ pre, (c.owner, e) ∈ s.accepted)
    (hall : ∀ c ∈ s.channels, c.entries ≠ [] → ∃ pre ci, Item.chan c pre ci ∈ others ∧ ci.magicOn = true) :
    Represents s items := by
  have hmem : ∀ it, (∃ x ∈ items, x.2 = it) ↔
      (it ∈ csSt.items Item.clockSyncs sess ∨ it ∈ srcSt.items Item.sources sess) ∨ it ∈ others := fun it => by
    rw [← List.mem_append, ← List.mem_append, ← hperm.mem_iff, List.mem_map]
  obtain ⟨⟨e1, h1⟩, k1⟩ := MetaState.items_spec csSt Item.clockSyncs sess
  obtain ⟨⟨e2, h2⟩, k2⟩ := MetaState.items_spec srcSt Item.sources sess
  refine ⟨fun x hx c pre ci hit hm => hchan c pre ci ?_ hm, ?_, ?_, fun c hc hne => ?_⟩
  · -- a queue is none of the streams' items
    rcases (hmem _).mp ⟨x, hx, hit⟩ with (h | h) | h
    · rcases k1 _ h with ⟨_, e⟩ | ⟨_, e⟩ <;> cases e
    · rcases k2 _ h with ⟨_, e⟩ | ⟨_, e⟩ <;> cases e
    · exact h
  · obtain ⟨x, hx, hit⟩ := (hmem _).mpr (.inl (.inl h1))
    exact ⟨x, hx, e1, hit⟩
  · obtain ⟨x, hx, hit⟩ := (hmem _).mpr (.inl (.inr h2))
    exact ⟨x, hx, e2, hit⟩
  · obtain ⟨pre, ci, h, hm⟩ := hall c hc hne
    obtain ⟨x, hx, hit⟩ := (hmem _).mpr (.inr h)
    exact ⟨x, hx, pre, ci, hit, hm⟩

theorem blocks_of_states (s : Session) (sess : Nat) (csSt srcSt : MetaState) (others : List Item)
    (items : List (Bytes × Item))
    (hperm : (items.map (·.2)).Perm (csSt.items Item.clockSyncs sess ++ srcSt.items Item.sources sess ++ others))
    (hcs : csSt.committed = s.clockSyncs.map Entry.payload) (hsrc : srcSt.committed = s.sources.map Entry.payload) :
    ((toImage s sess items).map (·.2.bytes)).Perm
      (csSt.blocks sess ++ srcSt.blocks sess ++ others.map (fun it => (it.piece s sess).bytes)) := by
  have h1 := MetaState.items_pieces csSt Item.clockSyncs s sess (by intro extra; rw [hcs]; rfl)
  have h2 := MetaState.items_pieces srcSt Item.sources s sess (by intro extra; rw [hsrc]; rfl)
  -- both sides are images of the two sides of `hperm` under "the bytes of the item's piece"
  simpa only [toImage, MetaState.blocks, ← h1, ← h2, List.map_append, List.map_map, Function.comp_def] using
    hperm.map (fun it => (it.piece s sess).bytes)

end BinlogVerif.Image
