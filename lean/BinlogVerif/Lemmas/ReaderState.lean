import BinlogVerif.Lemmas.Classify
/-
  What one payload does to the reader state, in terms of three partial parsers (`asSource`,
  `asWriterProp`, `asClockSync`) that recognise *valid* metadata payloads; the state after a list of
  payloads is the fold of that update.
-/
namespace BinlogVerif

/-- the payload is a valid event-source entry defining this source -/
def asSource (p : Bytes) : Option EventSource :=
  match readU 8 p with
  | .ok (tag, body) =>
    if tag = tagEventSource then
      match decSource body with
      | .ok (s, _) => some s
      | .error _ => none
    else none
  | .error _ => none

def asWriterProp (p : Bytes) : Option WriterProp :=
  match readU 8 p with
  | .ok (tag, body) =>
    if tag = tagWriterProp then
      match decWriterProp body with
      | .ok (w, _) => some w
      | .error _ => none
    else none
  | .error _ => none

def asClockSync (p : Bytes) : Option ClockSync :=
  match readU 8 p with
  | .ok (tag, body) =>
    if tag = tagClockSync then
      match decClockSync body with
      | .ok (c, _) => some c
      | .error _ => none
    else none
  | .error _ => none

def metaUpdate (st : ReaderState) (p : Bytes) : ReaderState :=
  { sources := match asSource p with
      | some s => st.sources.emplace s.id s
      | none => st.sources
    writerProp := (asWriterProp p).getD st.writerProp
    clockSync := (asClockSync p).getD st.clockSync }

theorem processEntry_state (st : ReaderState) (p : Bytes) :
    (processEntry st p).2 = metaUpdate st p := by
  obtain ⟨s1, s2, s3, n12, n13, n23⟩ := special_tags
  rw [processEntry_eq_spec]
  unfold metaUpdate asSource asWriterProp asClockSync
  induction p using classify_cases with
  | empty => rfl
  | short _ hr => simp [hr, processSpec]
  | event id rest hr hs =>
    have hne : id ≠ tagEventSource ∧ id ≠ tagWriterProp ∧ id ≠ tagClockSync := by
      refine ⟨?_, ?_, ?_⟩ <;> rintro rfl <;> simp_all
    simp only [hr, hne, processSpec, if_false]
    cases st.sources.find id with
    | none => rfl
    | some src => rcases readU 8 rest with e | ⟨c, a⟩ <;> rfl
  | unknownSpecial hr _ h1 h2 h3 => simp [hr, h1, h2, h3, processSpec]
  | source hr hd | writerProp hr hd | clockSync hr hd | badSource hr hd | badWriterProp hr hd | badClockSync hr hd =>
    simp [hr, hd, n12, n13, n23, n12.symm, n13.symm, n23.symm, processSpec]

theorem stepEntry_state {st st' : ReaderState} {p : Bytes} {items : List Item}
    (h : stepEntry st p = some (items, st')) : st' = metaUpdate st p := by
  rw [← processEntry_state]
  unfold stepEntry at h
  split at h <;> cases h <;> rename_i hp <;> rw [hp]

theorem asSource_id_lt {p : Bytes} {s : EventSource} (h : asSource p = some s) : s.id < 2^64 := by
  revert h
  fun_cases asSource p with
  | case1 => rintro ⟨⟩; exact decSource_id_lt ‹_›
  | _ => nofun

theorem metaUpdate_inv (st : ReaderState) (p : Bytes) (h : SegMap.Inv st.sources) :
    SegMap.Inv (metaUpdate st p).sources := by
  unfold metaUpdate
  cases hs : asSource p with
  | none => exact h
  | some s => exact SegMap.inv_emplace _ _ _ h (asSource_id_lt hs)

theorem runState_inv (st : ReaderState) (ps : List Bytes) (h : SegMap.Inv st.sources) :
    SegMap.Inv (runState st ps).1.sources := by
  fun_induction runState st ps with
  | case1 st => exact h
  | case2 st p ps hp => exact h
  | case3 st p ps items st' hp ih => exact ih (stepEntry_state hp ▸ metaUpdate_inv st p h)

theorem runState_eq_foldl (st : ReaderState) (ps : List Bytes) (h : (runState st ps).2 = false) :
    (runState st ps).1 = ps.foldl metaUpdate st := by
  fun_induction runState st ps with
  | case1 st => rfl
  | case2 st p ps hp => cases h
  | case3 st p ps items st' hp ih => rw [List.foldl_cons, ← stepEntry_state hp, ih h]

theorem foldl_latest {σ β α : Type} {g : σ → β → σ} (f : β → Option α) (proj : σ → α)
    (hp : ∀ s b, proj (g s b) = (f b).getD (proj s)) (s : σ) (bs : List β) :
    proj (bs.foldl g s) = ((bs.filterMap f).reverse.head?).getD (proj s) := by
  induction bs generalizing s with
  | nil => rfl
  | cons b bs ih =>
    rw [List.foldl_cons, ih, hp, List.filterMap_cons]
    cases f b with
    | none => rfl
    | some a => rw [List.reverse_cons, List.head?_append]; cases (List.filterMap f bs).reverse.head? <;> rfl

end BinlogVerif
