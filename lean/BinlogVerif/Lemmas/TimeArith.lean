import BinlogVerif.Lemmas.TimeCivil
import BinlogVerif.Base.CSem
/-
  The integer arithmetic of the time path: where the 64-bit wraps are the identity, `clockToNs` is the sync instant plus
  the signed tick distance times `10⁹ / f`, truncated toward zero (`clockToNs_eq`), and `brokenDown` is floor division
  by `10⁹` followed by `gmtime` (`brokenDown_eq`).
-/
namespace BinlogVerif.Time

/- `wrap64`/`wrap32` of the time model are `CSem.i64`/`CSem.i32` of the generated definitions.  The range is one
   conjunction, so that one `omega` call at the use proves both bounds. -/
theorem wrap64_id (x : Int) (h : -9223372036854775808 ≤ x ∧ x < 9223372036854775808) : wrap64 x = x :=
  CSem.i64_of_range h.1 h.2

theorem wrap64_range (x : Int) : -9223372036854775808 ≤ wrap64 x ∧ wrap64 x < 9223372036854775808 :=
  CSem.i64_range x

theorem wrap32_id (x : Int) (h : -2147483648 ≤ x ∧ x < 2147483648) : wrap32 x = x :=
  CSem.i32_of_range h.1 h.2

theorem wrap32_range (x : Int) : -2147483648 ≤ wrap32 x ∧ wrap32 x < 2147483648 :=
  CSem.i32_range x

theorem toI32_range (n : Nat) : -2147483648 ≤ toI32 n ∧ toI32 n < 2147483648 := wrap32_range _

/-- C++ truncating division by a positive divisor in terms of floor division, in a form `omega` can use when the
    divisor is a literal -/
theorem tdiv_of_pos (a : Int) {b : Int} (hb : 0 < b) :
    a.tdiv b = a / b + if 0 ≤ a ∨ b ∣ a then 0 else 1 := by
  rw [Int.tdiv_eq_ediv, Int.sign_eq_one_of_pos hb]

/-- Where the exact value is the rational `S + D / f` in `[0, B)`, the code computes `S + D.tdiv f`: that lies in
    `[0, B]`, and `D.tdiv f` is `D / f` rounded toward zero (down for `D ≥ 0`, up for `D < 0`). -/
theorem tdiv_window {f S D B : Int} (hf : 0 < f) (h0 : 0 ≤ f * S + D) (h1 : f * S + D < f * B) :
    0 ≤ S + D.tdiv f ∧ S + D.tdiv f ≤ B ∧
    (0 ≤ D → f * D.tdiv f ≤ D ∧ D < f * (D.tdiv f + 1)) ∧
    (D < 0 → f * (D.tdiv f - 1) < D ∧ D ≤ f * D.tdiv f) := by
  have e := Int.tmod_add_mul_tdiv D f
  have m0 := Int.lt_tmod_of_pos D hf
  have m1 := Int.tmod_lt_of_pos D hf
  have mp : 0 ≤ D → 0 ≤ D.tmod f := Int.tmod_nonneg f
  have mn : D < 0 → D.tmod f ≤ 0 := fun h => by
    have := Int.tmod_nonneg f (show 0 ≤ -D by omega)
    rw [Int.neg_tmod] at this
    omega
  generalize D.tdiv f = q at *
  generalize D.tmod f = m at *
  have cancel (x y : Int) (h : f * x < f * (y + 1)) : x ≤ y :=
    Int.le_of_lt_add_one (Int.lt_of_mul_lt_mul_left h (Int.le_of_lt hf))
  refine ⟨cancel 0 _ ?_, cancel _ _ ?_, fun h => ?_, fun h => ?_⟩
  · rw [Int.mul_add, Int.mul_add, Int.mul_one]; omega
  · rw [Int.mul_add, Int.mul_add, Int.mul_one]; omega
  · rw [Int.mul_add, Int.mul_one]; exact ⟨by omega, by omega⟩
  · rw [Int.mul_sub, Int.mul_one]; exact ⟨by omega, by omega⟩

/-- the split multiplication of `ticksToNanoseconds`/`clockToNsSinceEpoch` is exact -/
theorem muldiv_split (t f d : Nat) (hf : 0 < f) : (t / f) * d + (t % f) * d / f = t * d / f := by
  have h : t * d = f * ((t / f) * d) + (t % f) * d := by
    calc t * d = (f * (t / f) + t % f) * d := by rw [Nat.div_add_mod]
      _ = f * ((t / f) * d) + (t % f) * d := by rw [Nat.add_mul, Nat.mul_assoc]
  rw [h, Nat.mul_add_div hf]

theorem div_mul_le_muldiv (t f d : Nat) (hf : 0 < f) : t / f * d ≤ t * d / f :=
  muldiv_split t f d hf ▸ Nat.le_add_right _ _

/-- the unsigned part of `clockToNs` does not wrap when the result fits in 63 bits: `(t % f)·10⁹` fits in 64 bits up to
    `f = 18446744073` -/
theorem clockToNs_unsigned (t f : Nat) (hf0 : 0 < f) (hf : f ≤ 18446744073)
    (hQ : t * 1000000000 / f < 9223372036854775808) :
    ((t / f * 1000000000) % 18446744073709551616 +
      ((t % f * 1000000000) % 18446744073709551616) / f) % 18446744073709551616
      = t * 1000000000 / f := by
  have hs := muldiv_split t f 1000000000 hf0
  have hr : t % f < f := Nat.mod_lt _ hf0
  have hQ' : t * 1000000000 / f < 18446744073709551616 := Nat.lt_trans hQ (by decide)
  rw [Nat.mod_eq_of_lt (show t % f * 1000000000 < 18446744073709551616 by omega),
    Nat.mod_eq_of_lt (Nat.lt_of_le_of_lt (div_mul_le_muldiv t f 1000000000 hf0) hQ'), hs]
  exact Nat.mod_eq_of_lt hQ'

/-- `ticksToNanoseconds` is exact (floor) for a non-negative tick count whose result fits -/
theorem ticksToNs_nonneg (f t : Nat) (hf0 : 0 < f) (hf : f < 9200000000)
    (hQ : t * 1000000000 / f < 9223372036854775808) :
    ticksToNs f (t : Int) = ((t * 1000000000 / f : Nat) : Int) := by
  have hs := muldiv_split t f 1000000000 hf0
  have hr : t % f < f := Nat.mod_lt _ hf0
  have hq := div_mul_le_muldiv t f 1000000000 hf0
  unfold ticksToNs
  simp only []
  rw [wrap64_id (f : Int) (by omega), ← Int.ofNat_tdiv, ← Int.ofNat_tmod]
  generalize t / f = q at *
  generalize t % f = r at *
  rw [wrap64_id (q : Int) (by omega), wrap64_id (q * 1000000000 : Int) (by omega),
    wrap64_id (r * 1000000000 : Int) (by omega),
    show (r : Int) * 1000000000 = ((r * 1000000000 : Nat) : Int) by omega, ← Int.ofNat_tdiv,
    show (q : Int) * 1000000000 + ((r * 1000000000 / f : Nat) : Int) = ((t * 1000000000 / f : Nat) : Int) by omega]
  exact wrap64_id _ (by omega)

/-- holds as long as neither the quotient nor the sum leaves `int64`; the quotient comes as an equation (`q`, `hq`)
    because the caller names this subterm by `generalize h : … = q` -/
theorem clockToNs_eq (cs : ClockSync) (clock : Nat) (hc : clock < 18446744073709551616)
    (hcv : cs.clockValue < 18446744073709551616)
    (hf0 : 0 < cs.clockFrequency) (hf : cs.clockFrequency ≤ 18446744073)
    (hS : cs.nsSinceEpoch < 9223372036854775808) (q : Int)
    (hq : (((clock : Int) - cs.clockValue) * 1000000000).tdiv cs.clockFrequency = q)
    (h0 : -9223372036854775808 < q) (h1 : q < 9223372036854775808)
    (h2 : cs.nsSinceEpoch + q < 9223372036854775808) :
    clockToNs cs clock = cs.nsSinceEpoch + q := by
  by_cases hle : cs.clockValue ≤ clock
  · rw [show ((clock : Int) - cs.clockValue) * 1000000000 = (((clock - cs.clockValue) * 1000000000 : Nat) : Int) by omega,
      ← Int.ofNat_tdiv] at hq
    subst hq
    simp only [clockToNs, nsPerSec, ge_iff_le, hle, decide_true, if_true,
      Nat.mod_eq_of_lt (show clock - cs.clockValue < 18446744073709551616 by omega),
      clockToNs_unsigned (clock - cs.clockValue) cs.clockFrequency hf0 hf (by omega)]
    generalize (clock - cs.clockValue) * 1000000000 / cs.clockFrequency = Q at *
    simp (disch := omega) only [wrap64_id]
  · rw [show ((clock : Int) - cs.clockValue) * 1000000000 = -(((cs.clockValue - clock) * 1000000000 : Nat) : Int) by omega,
      Int.neg_tdiv, ← Int.ofNat_tdiv] at hq
    subst hq
    simp only [clockToNs, nsPerSec, ge_iff_le, hle, decide_false, if_false, Bool.false_eq_true,
      Nat.mod_eq_of_lt (show cs.clockValue - clock < 18446744073709551616 by omega),
      clockToNs_unsigned (cs.clockValue - clock) cs.clockFrequency hf0 hf (by omega)]
    generalize (cs.clockValue - clock) * 1000000000 / cs.clockFrequency = Q at *
    simp (disch := omega) only [wrap64_id]

/-- Holds for every `int64` value except the last 0.85 s above `INT64_MIN`, where `seconds * 10⁹`
    overflows after the decrement. -/
theorem brokenDown_eq (ns : Int) (h0 : -9223372036000000000 ≤ ns) (h1 : ns < 9223372036854775808) :
    brokenDown ns = { gmtime (ns / 1000000000) with nsec := ns % 1000000000 } := by
  unfold brokenDown
  have h := tdiv_of_pos ns (by decide : (0 : Int) < 1000000000)
  generalize ns.tdiv 1000000000 = s0 at h ⊢
  -- quotient and remainder by name, so that no later step divides (slow to check otherwise)
  simp only [Int.dvd_iff_emod_eq_zero] at h
  generalize hq : ns / 1000000000 = s at *
  generalize hr : ns % 1000000000 = r at *
  obtain ⟨e, r0, r1⟩ := (Int.ediv_emod_unique (by decide)).1 ⟨hq, hr⟩
  clear hq hr
  -- truncation followed by the conditional decrement is the floor
  have hs : (if wrap64 (s0 * 1000000000) > ns then wrap64 (s0 - 1) else s0) = s := by
    rw [wrap64_id _ (by omega), wrap64_id _ (by omega)]
    omega
  simp only [hs]
  clear hs h
  rw [wrap64_id (s * 1000000000) (by omega), Int.mul_tdiv_cancel _ (by decide),
    show ns - s * 1000000000 = r by omega, wrap64_id r (by omega), wrap32_id r (by omega)]

theorem gmtime_fields (tt : Int) :
    ValidDate (gmtime tt).year (gmtime tt).mon (gmtime tt).mday ∧
    (gmtime tt).hour < 24 ∧ (gmtime tt).min < 60 ∧ (gmtime tt).sec < 60 ∧
    ((daysFromCivil (gmtime tt).year (gmtime tt).mon (gmtime tt).mday * 24 + (gmtime tt).hour) * 60
        + (gmtime tt).min) * 60 + (gmtime tt).sec = tt := by
  obtain ⟨v, e⟩ := civil_spec (tt / 86400)
  obtain ⟨d, s0, s1⟩ := (Int.ediv_emod_unique (a := tt) (by decide : (0 : Int) < 86400)).1 ⟨rfl, rfl⟩
  simp only [gmtime]
  rw [e]
  generalize tt / 86400 = days at *
  generalize tt % 86400 = sod at *
  -- hours, minutes and seconds without `toNat`, which is slow to check by `omega`
  obtain ⟨a, b, c⟩ : 0 ≤ sod / 3600 ∧ 0 ≤ sod % 3600 / 60 ∧ 0 ≤ sod % 60 := by omega
  simp (disch := assumption) only [Int.toNat_of_nonneg, Int.toNat_lt]
  exact ⟨v, by omega⟩

end BinlogVerif.Time
