import BinlogVerif.Reader.Recovery
/-
  The memory blocks of the library as bytes, and what a memory image of the process looks like to
  `brecovery` (Reader/Recovery.lean).

  Two kinds of block carry a magic number:
    * a `RecoverableVectorOutputStream` block  `[magic | session(8) | size(8) | bytes(capacity)]`
      (`metaBlock`): the session's clock-sync buffer and its event-source buffer;
    * a `detail::Queue` header followed by its buffer
      `[magic | session(8) | W(8) | E(8) | capacity(8) | buffer ptr(8) | R(8) | buffer(capacity)]`
      (`chanBlock`).
  A block whose construction or destruction is in progress has eight zero bytes where the magic
  number goes.

  `MetaState` lists the states a recoverable metadata stream can be in AT ANY INSTANT (not only
  between calls), after the two fixes recorded for C08:
    * an entry is appended by ONE write call: its bytes are placed behind the current end first,
      then the size field is updated (`inserted`: the size field still counts the old entries only);
    * growing builds the new block with a zero magic, sets the magic when the copy is complete,
      then clears the magic of the old block, then frees it.
  `ChanImage` is a queue at any instant; its hypothesis `Ok` is what C01 + C04 provide: the region
  `beginRead` returns for the indices currently in memory is a run of whole framed entries, the
  committed-but-unreleased ones (`pending`).

  An image is a sequence of blocks in any order, separated by other memory (`filler`).  TRUSTED BASE:
  the model cannot exclude that other process memory (stale heap contents, a string constant, an
  event argument that happens to equal a magic number followed by a plausible header) contains the
  magic numbers; the theorems assume it does not (`NoMagicIn`, implied by `FillerOk`: no byte 0xBC).
  The same assumption is needed for every part of a block the scan looks INTO rather than jumps
  over: the unused capacity behind a metadata buffer's size field (`extra`, which holds the bytes
  of an entry being inserted), and blocks whose magic is zero.
-/
namespace BinlogVerif.Image
open BinlogVerif

def metaBlock (magicOn : Bool) (session sizeField : Nat) (content : Bytes) : Bytes :=
  (if magicOn then Recovery.metadataMagic else List.replicate 8 0) ++ le 8 session ++ le 8 sizeField ++ content

def chanBlock (magicOn : Bool) (session w e cap ptr r : Nat) (buf : Bytes) : Bytes :=
  (if magicOn then Recovery.dataMagic else List.replicate 8 0) ++ le 8 session ++ le 8 w ++ le 8 e ++ le 8 cap
    ++ le 8 ptr ++ le 8 r ++ buf

/-- memory that does not contain the first magic byte -/
def FillerOk (f : Bytes) : Prop := ∀ b ∈ f, b ≠ Recovery.firstMagicByte

instance (f : Bytes) : Decidable (FillerOk f) := by unfold FillerOk; infer_instance

/-- the bytes start with one of the two magic numbers -/
def StartsMagic (r : Bytes) : Prop := r.take 8 = Recovery.metadataMagic ∨ r.take 8 = Recovery.dataMagic

/-- No magic number starts at any position of `f`, when `f` is followed by `rest` (a magic number
    could straddle the boundary).  This is the weakest hypothesis under which the scan passes over
    `f`; `FillerOk f` implies it for every `rest`. -/
def NoMagicIn : Bytes → Bytes → Prop
  | [], _ => True
  | b :: f, rest => ¬ StartsMagic (b :: f ++ rest) ∧ NoMagicIn f rest

/-- At no position of `f` (followed by `rest`) does the recovery tool accept a block: either no magic
    number starts there, or the candidate that follows the magic number is rejected
    (`readMetadata … = none`, `readData … = .ok none`).  Real images contain stale copies of the
    magic numbers (a local variable in a dead stack frame, …) followed by garbage; this is the
    condition that covers them. -/
def Inert : Bytes → Bytes → Prop
  | [], _ => True
  | b :: f, rest =>
      ((b :: f ++ rest).take 8 = Recovery.metadataMagic → Recovery.readMetadata ((b :: f ++ rest).drop 8) = none) ∧
      ((b :: f ++ rest).take 8 = Recovery.dataMagic → Recovery.readData ((b :: f ++ rest).drop 8) = .ok none) ∧
      Inert f rest

theorem inert_of_noMagicIn {f rest : Bytes} (h : NoMagicIn f rest) : Inert f rest := by
  induction f with
  | nil => trivial
  | cons b f ih =>
    exact ⟨fun e => absurd (.inl e) h.1, fun e => absurd (.inr e) h.1, ih h.2⟩

/-- At the start of `r` the tool accepts no block, or it accepts one whose buffer is EMPTY and which
    ends within the next `room` bytes (e.g. a stale metadata magic number followed by a pointer —
    taken as session id — and eight zero bytes: size 0). -/
def InertEAt (r : Bytes) (room : Nat) : Prop :=
  (r.take 8 = Recovery.metadataMagic → Recovery.readMetadata (r.drop 8) = none ∨
      ∃ b n, Recovery.readMetadata (r.drop 8) = some (b, n) ∧ b.buffer = [] ∧ 8 + n ≤ room) ∧
  (r.take 8 = Recovery.dataMagic → Recovery.readData (r.drop 8) = .ok none ∨
      ∃ b n, Recovery.readData (r.drop 8) = .ok (some (b, n)) ∧ b.buffer = [] ∧ 8 + n ≤ room)

/-- Like `Inert`, but a candidate may also be ACCEPTED provided the recovered buffer is empty and the
    accepted junk block lies entirely inside `f` (the scan resumes within `f`).  Such buffers carry
    arbitrary session ids and add nothing to the output. -/
def InertE : Bytes → Bytes → Prop
  | [], _ => True
  | b :: f, rest => InertEAt (b :: (f ++ rest)) (f.length + 1) ∧ InertE f rest

theorem inert_cons (b : UInt8) (f rest : Bytes) :
    Inert (b :: f) rest ↔ InertEAt (b :: (f ++ rest)) 0 ∧ Inert f rest := by
  -- no accepted block ends within 0 bytes: `8 + n ≤ 0` is false
  simp [Inert, InertEAt, and_assoc]

theorem inertE_of_inert {f rest : Bytes} (h : Inert f rest) : InertE f rest := by
  induction f with
  | nil => trivial
  | cons b f ih => exact ⟨⟨fun e => .inl (h.1 e), fun e => .inl (h.2.1 e)⟩, ih h.2.2⟩

inductive MetaState where
  /-- between calls: `entries` counted by the size field, `slack` = the unused capacity -/
  | stable (entries : List Bytes) (slack : Bytes)
  /-- an append in flight: the bytes of the new entry (a prefix of them, or all) are already behind
      the end (`extra` = those bytes and the remaining capacity), the size field is not updated yet -/
  | inserted (entries : List Bytes) (extra : Bytes)
  /-- growing: the new block is being filled or complete (`newSize`, `newContent`: whatever it holds),
      its magic is still zero; the old block is untouched -/
  | growingNoMagic (entries : List Bytes) (slackOld : Bytes) (newSize : Nat) (newContent : Bytes)
  /-- growing: the new block is complete and carries the magic; the old one still does too -/
  | growingBoth (entries : List Bytes) (slackOld slackNew : Bytes)
  /-- growing: the magic of the old block is cleared (then it is freed) -/
  | growingOldCleared (entries : List Bytes) (slackOld slackNew : Bytes)

/-- the payloads counted by the size field of the block(s) that carry the magic -/
def MetaState.committed : MetaState → List Bytes
  | .stable es _ | .inserted es _ | .growingNoMagic es _ _ _ | .growingBoth es _ _ | .growingOldCleared es _ _ => es

/-- the side conditions on a stream: payloads fit a 32-bit size field, the buffer a 64-bit one -/
def MetaState.Ok (st : MetaState) : Prop :=
  (∀ p ∈ st.committed, PayloadOk p) ∧ (frames st.committed).length < 2 ^ 64

structure ChanImage where
  magicOn : Bool
  w : Nat
  e : Nat
  r : Nat
  cap : Nat
  ptr : Nat := 0            -- the buffer pointer: not used by the recovery tool
  buf : Bytes
  /-- payloads of the committed entries the consumer has not released yet, oldest first -/
  pending : List Bytes

/-- what C01 + C04 provide for the indices and buffer currently in memory -/
def ChanImage.Ok (c : ChanImage) : Prop :=
  c.buf.length = c.cap ∧ c.w ≤ c.cap ∧ c.e ≤ c.cap ∧ c.r ≤ c.cap ∧
  Recovery.beginReadCopy c.buf c.w c.e c.r = .ok (frames c.pending) ∧ ∀ p ∈ c.pending, PayloadOk p

def ChanImage.block (c : ChanImage) (session : Nat) : Bytes :=
  chanBlock c.magicOn session c.w c.e c.cap c.ptr c.r c.buf

inductive Piece where
  /-- a metadata block that carries the magic: size field = `|frames entries|`, followed by `extra` -/
  | metaOn (session : Nat) (entries : List Bytes) (extra : Bytes)
  /-- a queue (with or without the magic, `c.magicOn`) -/
  | chan (session : Nat) (c : ChanImage)
  /-- any block whose magic is zero -/
  | off (bytes : Bytes)

def Piece.bytes : Piece → Bytes
  | .metaOn s es extra => metaBlock true s (frames es).length (frames es ++ extra)
  | .chan s c => c.block s
  | .off bs => bs

/-- what the recovery tool is to collect from the block -/
def Piece.recovered : Piece → Option Recovery.Recovered
  | .metaOn s es _ => some ⟨.metadata, s, frames es⟩
  | .chan s c => if c.magicOn then some ⟨.data, s, frames c.pending⟩ else none
  | .off _ => none

/-- Side conditions of a block that is followed by `rest` in the image.  Fields are 64-bit; the
    parts the scan looks into contain no magic number. -/
def Piece.Ok (rest : Bytes) : Piece → Prop
  | .metaOn s es extra => s < 2 ^ 64 ∧ (frames es).length < 2 ^ 64 ∧ (∀ p ∈ es, PayloadOk p) ∧ NoMagicIn extra rest
  | .chan s c => if c.magicOn then s < 2 ^ 64 ∧ c.cap < 2 ^ 64 ∧ c.Ok else NoMagicIn (c.block s) rest
  | .off bs => NoMagicIn bs rest

/-- the same with the rest-independent filler condition -/
def Piece.OkF : Piece → Prop
  | .metaOn s es extra => s < 2 ^ 64 ∧ (frames es).length < 2 ^ 64 ∧ (∀ p ∈ es, PayloadOk p) ∧ FillerOk extra
  | .chan s c => if c.magicOn then s < 2 ^ 64 ∧ c.cap < 2 ^ 64 ∧ c.Ok else FillerOk (c.block s)
  | .off bs => FillerOk bs

/-- The part of a block the scan looks INTO: after collecting the buffer of a metadata block it goes on
    right behind the counted bytes; it passes over a block without magic byte by byte; it jumps
    over a queue that carries the magic. -/
def Piece.gap : Piece → Bytes
  | .metaOn _ _ extra => extra
  | .chan s c => if c.magicOn then [] else c.block s
  | .off bs => bs

/-- the side conditions on the fields of a block that carries the magic (the four `Piece.Ok…` are
    this and a condition on `Piece.gap`) -/
def Piece.Sound : Piece → Prop
  | .metaOn s es _ => s < 2 ^ 64 ∧ (frames es).length < 2 ^ 64 ∧ ∀ p ∈ es, PayloadOk p
  | .chan s c => c.magicOn = true → s < 2 ^ 64 ∧ c.cap < 2 ^ 64 ∧ c.Ok
  | .off _ => True

theorem Piece.ok_iff {p : Piece} {rest : Bytes} : p.Ok rest ↔ p.Sound ∧ NoMagicIn p.gap rest := by
  cases p with
  | chan s c => by_cases hm : c.magicOn = true <;> simp [Piece.Ok, Piece.Sound, Piece.gap, hm, NoMagicIn]
  | _ => simp [Piece.Ok, Piece.Sound, Piece.gap, and_assoc]

theorem Piece.okF_iff {p : Piece} : p.OkF ↔ p.Sound ∧ FillerOk p.gap := by
  cases p with
  | chan s c => by_cases hm : c.magicOn = true <;> simp [Piece.OkF, Piece.Sound, Piece.gap, hm, FillerOk]
  | _ => simp [Piece.OkF, Piece.Sound, Piece.gap, and_assoc]

/-- the pieces of a metadata stream of session `s` -/
def MetaState.pieces (s : Nat) : MetaState → List Piece
  | .stable es slack => [.metaOn s es slack]
  | .inserted es extra => [.metaOn s es extra]
  | .growingNoMagic es slackOld newSize newContent => [.metaOn s es slackOld, .off (metaBlock false s newSize newContent)]
  | .growingBoth es slackOld slackNew => [.metaOn s es slackOld, .metaOn s es slackNew]
  | .growingOldCleared es slackOld slackNew =>
    [.off (metaBlock false s (frames es).length (frames es ++ slackOld)), .metaOn s es slackNew]

/-- the memory blocks of the stream -/
def MetaState.blocks (st : MetaState) (s : Nat) : List Bytes := (st.pieces s).map Piece.bytes

/-- number of blocks of the stream that carry the magic -/
def MetaState.live : MetaState → Nat
  | .growingBoth .. => 2
  | _ => 1

/-- an image: `(filler, block)` pairs in memory order, then trailing filler -/
def flat : List (Bytes × Piece) → Bytes → Bytes
  | [], t => t
  | (f, p) :: rest, t => f ++ p.bytes ++ flat rest t

/-- side conditions of an image, finest form: no magic number anywhere except at the start of the
    blocks that carry one -/
def ImageOk : List (Bytes × Piece) → Bytes → Prop
  | [], t => NoMagicIn t []
  | (f, p) :: rest, t => NoMagicIn f (p.bytes ++ flat rest t) ∧ p.Ok (flat rest t) ∧ ImageOk rest t

/-- Side conditions of a block followed by `rest`, weakest form: the parts the scan looks into may
    contain magic numbers, provided the tool rejects the candidate behind each of them. -/
def Piece.OkI (rest : Bytes) : Piece → Prop
  | .metaOn s es extra => s < 2 ^ 64 ∧ (frames es).length < 2 ^ 64 ∧ (∀ p ∈ es, PayloadOk p) ∧ Inert extra rest
  | .chan s c => if c.magicOn then s < 2 ^ 64 ∧ c.cap < 2 ^ 64 ∧ c.Ok else Inert (c.block s) rest
  | .off bs => Inert bs rest

/-- Side conditions of an image, weakest form: at no position outside the blocks that carry a magic
    (and outside the buffers the tool jumps over) does the tool accept a block.  No separate
    "no straddling" condition is needed: after a rejection the scan resumes 8 bytes later, and none
    of the seven bytes it jumps over starts a magic number, so a rejected magic number cannot hide
    the magic number of a following block (`scanAll_magic_tail`). -/
def ImageOkI : List (Bytes × Piece) → Bytes → Prop
  | [], t => Inert t []
  | (f, p) :: rest, t => Inert f (p.bytes ++ flat rest t) ∧ p.OkI (flat rest t) ∧ ImageOkI rest t

theorem Piece.okI_iff {p : Piece} {rest : Bytes} : p.OkI rest ↔ p.Sound ∧ Inert p.gap rest := by
  cases p with
  | chan s c => by_cases hm : c.magicOn = true <;> simp [Piece.OkI, Piece.Sound, Piece.gap, hm, Inert]
  | _ => simp [Piece.OkI, Piece.Sound, Piece.gap, and_assoc]

theorem imageOkI_of_imageOk {img : List (Bytes × Piece)} {t : Bytes} (h : ImageOk img t) : ImageOkI img t := by
  induction img with
  | nil => exact inert_of_noMagicIn h
  | cons x rest ih =>
    obtain ⟨f, p⟩ := x
    exact ⟨inert_of_noMagicIn h.1, Piece.okI_iff.mpr ((Piece.ok_iff.mp h.2.1).imp_right inert_of_noMagicIn), ih h.2.2⟩

/-- `Piece.OkI` with `InertE` for the parts the scan looks into -/
def Piece.OkE (rest : Bytes) : Piece → Prop
  | .metaOn s es extra => s < 2 ^ 64 ∧ (frames es).length < 2 ^ 64 ∧ (∀ p ∈ es, PayloadOk p) ∧ InertE extra rest
  | .chan s c => if c.magicOn then s < 2 ^ 64 ∧ c.cap < 2 ^ 64 ∧ c.Ok else InertE (c.block s) rest
  | .off bs => InertE bs rest

/-- Side conditions of an image that may also contain junk magic numbers behind which the tool
    accepts an EMPTY buffer (`InertE`). -/
def ImageOkE : List (Bytes × Piece) → Bytes → Prop
  | [], t => InertE t []
  | (f, p) :: rest, t => InertE f (p.bytes ++ flat rest t) ∧ p.OkE (flat rest t) ∧ ImageOkE rest t

theorem Piece.okE_iff {p : Piece} {rest : Bytes} : p.OkE rest ↔ p.Sound ∧ InertE p.gap rest := by
  cases p with
  | chan s c => by_cases hm : c.magicOn = true <;> simp [Piece.OkE, Piece.Sound, Piece.gap, hm, InertE]
  | _ => simp [Piece.OkE, Piece.Sound, Piece.gap, and_assoc]

theorem imageOkE_of_imageOkI {img : List (Bytes × Piece)} {t : Bytes} (h : ImageOkI img t) : ImageOkE img t := by
  induction img with
  | nil => exact inertE_of_inert h
  | cons x rest ih =>
    obtain ⟨f, p⟩ := x
    exact ⟨inertE_of_inert h.1, Piece.okE_iff.mpr ((Piece.okI_iff.mp h.2.1).imp_right inertE_of_inert), ih h.2.2⟩

/-- side conditions of an image, simple form: fillers, unused capacity and blocks without a magic
    number do not contain the byte 0xBC -/
def ImageOkF (img : List (Bytes × Piece)) (t : Bytes) : Prop :=
  (∀ x ∈ img, FillerOk x.1 ∧ x.2.OkF) ∧ FillerOk t

theorem metadataMagic_eq : Recovery.metadataMagic = [0xBC, 0xBD, 0x35, 0x6E, 0x72, 0x4F, 0x21, 0xFE] := by decide
theorem dataMagic_eq : Recovery.dataMagic = [0xBC, 0xBC, 0x34, 0x6D, 0x71, 0x3F, 0x21, 0xFE] := by decide

/-- both magic numbers start with `firstMagicByte` -/
theorem magic_head {b : UInt8} {r : Bytes} (h : StartsMagic (b :: r)) : b = Recovery.firstMagicByte := by
  rcases h with h | h
  · rw [metadataMagic_eq] at h; exact (List.cons.inj h).1
  · rw [dataMagic_eq] at h; exact (List.cons.inj h).1

theorem noMagicIn_of_fillerOk {f rest : Bytes} (h : FillerOk f) : NoMagicIn f rest := by
  induction f with
  | nil => trivial
  | cons b f ih => exact ⟨fun hs => h b (by simp) (magic_head hs), ih (fun x hx => h x (by simp [hx]))⟩

theorem imageOk_of_okF {img : List (Bytes × Piece)} {t : Bytes} (h : ImageOkF img t) : ImageOk img t := by
  induction img with
  | nil => exact noMagicIn_of_fillerOk h.2
  | cons x rest ih =>
    obtain ⟨f, p⟩ := x
    obtain ⟨hx, hrest⟩ := List.forall_mem_cons.mp h.1
    exact ⟨noMagicIn_of_fillerOk hx.1, Piece.ok_iff.mpr ((Piece.okF_iff.mp hx.2).imp_right noMagicIn_of_fillerOk),
      ih ⟨hrest, h.2⟩⟩

/-- the buffers the recovery tool is to find, in image order -/
def expected (img : List (Bytes × Piece)) : List Recovery.Recovered := img.filterMap (·.2.recovered)

end BinlogVerif.Image
