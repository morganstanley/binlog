/-
  Model of the log macros (include/binlog/{basic,advanced}_log_macros.hpp,
  create_source_and_event_if.hpp, create_source_and_event.hpp) for severity control (C19).

  Every macro of the 24 (`BINLOG_<SEV>`, `_W`, `_C`, `_WC`) expands to
      do { if (severity >= writer.session().minSeverity()) { CREATE_SOURCE_AND_EVENT(...) } } while (false)
  (the expansion table is extracted from the preprocessor output, `Generated/Macros.lean`).
  `CREATE_SOURCE_AND_EVENT`: load the per-call-site id; if 0, register the source and store the
  id (the registration passes the arguments to `concatenated_tags`, evaluating them once more);
  then `addEvent` — which evaluates each argument expression once.
  Argument expressions are modelled as effects: evaluating the arguments of a statement with `n`
  effectful arguments adds `n` to the counter `evals`.
-/
namespace BinlogVerif.Macro
open BinlogVerif

structure Stmt where
  site : Nat            -- the call site (owns the static source id)
  session : Nat         -- which session the writer belongs to
  severity : Nat
  nargs : Nat           -- number of (effectful) argument expressions
deriving Repr, DecidableEq

structure St where
  minSeverity : List (Nat × Nat) := []     -- session ↦ minimum severity (default: trace = 32)
  registered : List Nat := []              -- call sites whose static id is non-zero
  events : Nat := 0                        -- events produced so far
  sources : Nat := 0                       -- event sources registered so far
  evals : Nat := 0                         -- argument expressions evaluated so far
deriving Repr, DecidableEq

def St.minOf (s : St) (session : Nat) : Nat := ((s.minSeverity.find? (·.1 == session)).map (·.2)).getD 32

inductive Op where
  | setMin (session sev : Nat)
  | stmt (st : Stmt)
deriving Repr

def step (s : St) : Op → St
  | .setMin session sev => { s with minSeverity := (session, sev) :: s.minSeverity.filter (·.1 != session) }
  | .stmt st =>
    if st.severity ≥ s.minOf st.session then
      let first := !s.registered.contains st.site
      { s with registered := if first then st.site :: s.registered else s.registered,
               sources := s.sources + (if first then 1 else 0),
               events := s.events + 1,
               -- the first execution evaluates the argument expressions twice: once for
               -- `concatenated_tags(__VA_ARGS__)` while registering the source, once for `addEvent`
               evals := s.evals + (if first then 2 * st.nargs else st.nargs) }
    else s

def exec (s : St) (ops : List Op) : St := ops.foldl step s

/-- the 24 macros: (name, severity, takes a writer argument, takes a category argument) -/
def macroTable : List (String × Nat × Bool × Bool) :=
  let sevs := [("TRACE", 32), ("DEBUG", 64), ("INFO", 128), ("WARN", 256), ("ERROR", 512), ("CRITICAL", 1024)]
  sevs.flatMap fun (n, v) =>
    [("BINLOG_" ++ n, v, false, false), ("BINLOG_" ++ n ++ "_W", v, true, false),
     ("BINLOG_" ++ n ++ "_C", v, false, true), ("BINLOG_" ++ n ++ "_WC", v, true, true)]

end BinlogVerif.Macro
