import BinlogVerif.Lemmas.Classify
import BinlogVerif.Lemmas.Split
/-
  C16 — Event filter: filtering then reading equals reading then filtering.
-/
namespace BinlogVerif.C16
open BinlogVerif

/-- which items survive "read, then filter by the predicate on the resolved source" -/
def keep (pred : EventSource → Bool) : Item → Bool
  | .event e _ _ => pred e.source
  | .error _ => true

/-- a well-formed stream: reading it meets no null/empty payload and reports no error -/
def WellFormed (st : ReaderState) (ps : List Bytes) : Prop :=
  (runState st ps).2 = false ∧ ∀ it ∈ readAll st ps, it.isError = false

/-- the reader's table is a valid map, and the filter's id set agrees with "the most recent definition of the id
    satisfies the predicate" -/
def AllowedOk (pred : EventSource → Bool) (allowed : IdSet) (st : ReaderState) : Prop :=
  SegMap.Inv st.sources ∧ ∀ id, id < 2^64 → allowed id = (st.sources.find id).any pred

/-- The filter drops a payload only if it leaves nothing behind: an event of a rejected source (no item
    survives `keep`, the state is unchanged). -/
theorem step_commutes (pred : EventSource → Bool) {st st' : ReaderState} {allowed : IdSet} {p : Bytes}
    {items : List Item} (hok : AllowedOk pred allowed st)
    (hstep : stepEntry st p = some (items, st')) (hne : ∀ it ∈ items, it.isError = false) :
    ∃ pass allowed', filterEntry pred allowed p = .ok (pass, allowed') ∧ AllowedOk pred allowed' st' ∧
      items.filter (keep pred) = (if pass then items else []) ∧ (pass = false → st' = st) := by
  simp only [stepEntry, processEntry_eq_spec] at hstep
  rw [filterEntry_eq_spec]
  induction p using classify_cases with
  | empty => cases hstep
  | short | badSource | badWriterProp | badClockSync =>
    cases hstep; cases hne _ List.mem_cons_self
  | writerProp | clockSync | unknownSpecial =>
    cases hstep; exact ⟨_, _, rfl, hok, rfl, nofun⟩
  | @source _ _ s _ _ hd =>
    cases hstep
    have hsl := decSource_id_lt hd
    refine ⟨_, _, rfl, ⟨SegMap.inv_emplace _ _ _ hok.1 hsl, fun id hid => ?_⟩, rfl, nofun⟩
    simp only [IdSet.set, SegMap.find_emplace _ _ _ _ hok.1 hsl hid]
    split <;> simp [hok.2 id hid]
  | event id rest hr =>
    have hal := hok.2 id (readU_ok_iff.mp hr).2
    simp only [processSpec] at hstep
    cases hf : st.sources.find id with
    | none => rw [hf] at hstep; cases hstep; cases hne _ List.mem_cons_self
    | some src =>
      rw [hf] at hstep hal
      rcases hc : readU 8 rest with e | ⟨clock, args⟩ <;> rw [hc] at hstep <;> cases hstep
      · cases hne _ List.mem_cons_self
      · refine ⟨_, _, rfl, hok, ?_, fun _ => rfl⟩
        by_cases hp : pred src = true <;> simp [hal, keep, hp]

/-- **Filter/read commutation**, from any reader state whose table the id set agrees with. -/
theorem c16_commutes_from (pred : EventSource → Bool) (st : ReaderState) (allowed : IdSet)
    (ps : List Bytes) (hok : AllowedOk pred allowed st) (hwf : WellFormed st ps) :
    readAll st (filterAll pred allowed ps).1 = (readAll st ps).filter (keep pred) := by
  obtain ⟨hns, hne⟩ := hwf
  -- along `runState` (in `hns`), for the reason given at `readAll_append`
  fun_induction runState st ps generalizing allowed with
  | case1 st => rfl
  | case2 st p ps hp => cases hns
  | case3 st p ps items st' hp ih =>
    simp only [readAll, hp] at hne ⊢
    obtain ⟨pass, allowed', hfe, hok', hkeep, hst⟩ :=
      step_commutes pred hok hp (fun it h => hne it (List.mem_append_left _ h))
    have ih' := ih allowed' hok' hns fun it h => hne it (List.mem_append_right _ h)
    simp only [filterAll, hfe, List.filter_append, hkeep]
    cases pass with
    | true => simp only [if_true, readAll, hp, ih']
    | false => cases hst rfl; simp only [Bool.false_eq_true, if_false, List.nil_append, ih']

/-- **C16 (payload level).**  For every well-formed stream (ids may be defined again with
    different properties), every predicate: reading the filter's output gives exactly the events
    of the unfiltered read whose source — the most recent definition of their id — satisfies the
    predicate, each with identical source, writer description, clock sync, clock and arguments
    (hence identical text for any renderer). -/
theorem c16_commutes (pred : EventSource → Bool) (ps : List Bytes) (hwf : WellFormed {} ps) :
    readAll {} (filterAll pred IdSet.empty ps).1 = (readAll {} ps).filter (keep pred) :=
  c16_commutes_from pred {} IdSet.empty ps
    ⟨SegMap.inv_empty, fun id _ => by simp [IdSet.empty, SegMap.find_empty]⟩ hwf

theorem writeAllowedFuel_frame {pred : EventSource → Bool} {allowed allowed' : IdSet} {p : Bytes} {pass : Bool}
    (fuel : Nat) (rest : Bytes) (hp : PayloadOk p) (hf : filterEntry pred allowed p = .ok (pass, allowed')) :
    writeAllowedFuel pred (fuel + 1) allowed (frame p ++ rest) =
      let (out, a, total, err) := writeAllowedFuel pred fuel allowed' rest
      if pass then (frame p ++ out, a, (p.length + 4) + total, err) else (out, a, total, err) := by
  have he : (frame p ++ rest).isEmpty = false := by
    rw [frame, List.append_assoc]; exact le_append_isEmpty 4 _ _ (by decide)
  have hr : readU 4 (frame p ++ rest) = .ok (p.length, p ++ rest) := by
    rw [frame, List.append_assoc]; exact readU_le_append 4 _ _ hp
  have htake : (frame p ++ rest).take (4 + p.length) = frame p := by rw [← frame_length, List.take_left]
  rw [writeAllowedFuel, if_neg (by rw [he]; nofun)]
  simp only [hr, takeN_append p.length p rest rfl, hf, htake]

/-- on a buffer of whole entries none of which makes the filter throw, `writeAllowed` writes the
    frames of exactly the payloads `filterAll` selects, returns their total size, and no error -/
theorem writeAllowed_frames (pred : EventSource → Bool) (allowed : IdSet) (ps : List Bytes)
    (hok : ∀ p ∈ ps, PayloadOk p)
    (hne : ∀ a p, (filterSpec pred a (classify p)).isOk = true ∨ p ∉ ps) (fuel : Nat)
    (hfuel : (frames ps).length < fuel) :
    writeAllowedFuel pred fuel allowed (frames ps) =
      (frames (filterAll pred allowed ps).1, (filterAll pred allowed ps).2,
       (frames (filterAll pred allowed ps).1).length, none) := by
  induction ps generalizing allowed fuel with
  | nil => cases fuel <;> rfl
  | cons p ps ih =>
    cases fuel with
    | zero => exact absurd hfuel (Nat.not_lt_zero _)
    | succ f =>
      rw [frames_cons, List.length_append, frame_length] at hfuel
      obtain ⟨⟨pass, a'⟩, hf⟩ := ok_of_isOk ((hne allowed p).resolve_right (by simp))
      rw [← filterEntry_eq_spec] at hf
      rw [frames_cons, writeAllowedFuel_frame f _ (hok p (by simp)) hf, filterAll, hf,
        ih a' (fun q hq => hok q (by simp [hq]))
          (fun a q => (hne a q).imp_right fun h hq => h (by simp [hq])) f (by omega)]
      cases pass with
      | true => simp only [if_true, frames_cons, List.length_append, frame_length]; rw [Nat.add_comm p.length 4]
      | false => rfl

/-- `filterAll` over a concatenation = running it chunk by chunk with the id set carried over
    (any split of the stream into whole-entry chunks) -/
theorem filterAll_append (pred : EventSource → Bool) (allowed : IdSet) (a b : List Bytes)
    (hne : ∀ al p, p ∈ a → (filterEntry pred al p).isOk = true) :
    filterAll pred allowed (a ++ b) =
      ((filterAll pred allowed a).1 ++ (filterAll pred (filterAll pred allowed a).2 b).1,
       (filterAll pred (filterAll pred allowed a).2 b).2) := by
  induction a generalizing allowed with
  | nil => simp [filterAll]
  | cons p ps ih =>
    obtain ⟨⟨pass, a'⟩, hf⟩ := ok_of_isOk (hne allowed p (by simp))
    simp only [List.cons_append, filterAll, hf]
    rw [ih a' (fun al q hq => hne al q (by simp [hq]))]
    cases pass <;> simp

/-- `isSpecialPayload p`: the payload carries a tag with the top bit set -/
def isSpecialPayload (p : Bytes) : Bool :=
  match readU 8 p with
  | .ok (tag, _) => isSpecial tag
  | .error _ => false

/-- **All metadata entries pass through unchanged and in order.** -/
theorem c16_metadata_passes (pred : EventSource → Bool) (allowed : IdSet) (ps : List Bytes)
    (hne : ∀ al p, p ∈ ps → (filterEntry pred al p).isOk = true) :
    (filterAll pred allowed ps).1.filter isSpecialPayload = ps.filter isSpecialPayload := by
  induction ps generalizing allowed with
  | nil => simp [filterAll]
  | cons p ps ih =>
    obtain ⟨⟨pass, a'⟩, hf⟩ := ok_of_isOk (hne allowed p (by simp))
    have ih' := ih a' (fun al q hq => hne al q (by simp [hq]))
    simp only [filterAll, hf]
    cases pass with
    | true => simp [List.filter_cons, ih']
    | false =>
      -- only an event is dropped, and its tag is not special
      rw [filterEntry_eq_spec] at hf
      induction p using classify_cases with
      | event _ _ hr hs => simp [isSpecialPayload, hr, hs, ih']
      | _ => cases hf

/-- **C16 (byte level, one call).**  The bytes written are the frames of the selected payloads and
    the returned count equals the number of bytes written. -/
theorem c16_count (pred : EventSource → Bool) (allowed : IdSet) (ps : List Bytes)
    (hok : ∀ p ∈ ps, PayloadOk p)
    (hne : ∀ a p, (filterSpec pred a (classify p)).isOk = true ∨ p ∉ ps) :
    let r := writeAllowed pred allowed (frames ps)
    r.1 = frames (filterAll pred allowed ps).1 ∧ r.2.2.1 = r.1.length ∧ r.2.2.2 = none := by
  simp only [writeAllowed]
  rw [writeAllowed_frames pred allowed ps hok hne _ (by omega)]
  simp

/-! Non-vacuity and the witness that motivated the `fix:` commit: id 5 is first defined with an
    allowed source, then re-defined with a rejected one; events after the re-definition must be
    filtered out. -/
def srcP (id sev : Nat) : Bytes := sourcePayload { id := id, severity := sev }
def errorsOnly : EventSource → Bool := fun s => s.severity ≥ 512

def witness : List Bytes := [srcP 5 512, eventPayload 5 1 [], srcP 5 128, eventPayload 5 2 []]

example : (readAll {} witness).length = 2 ∧ (readAll {} (filterAll errorsOnly IdSet.empty witness).1).length = 1 := by
  decide

example : WellFormed {} witness := by
  refine ⟨by decide, ?_⟩
  decide

end BinlogVerif.C16
