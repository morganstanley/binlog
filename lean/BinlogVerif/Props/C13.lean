import BinlogVerif.Props.C02
import BinlogVerif.Props.C03
/-
  C13 — Log rotation: each output is self-contained after reconsumeMetadata.

  `Op.rotate` = the application switches to a new output and calls `reconsumeMetadata` on it before
  the next consume.  Histories are arbitrary op lists (first-time and repeated log statements of
  several writers, consumes with any oracle, clock-sync changes, rotations — twice in a row,
  before any consume, with unconsumed events and unconsumed sources pending).
-/
namespace BinlogVerif.C13
open BinlogVerif BinlogVerif.Sess

/-- **Every output is self-contained**: in each output — the first one and each one created by a
    rotation — every event is preceded, within that output, by the event source with its id and by
    a clock sync, so it reads without the older files. -/
theorem c13_self_contained (cs : ClockSync) (ops : List Op) (s : Session)
    (hok : TraceOk (init cs) ops) (hrun : exec (init cs) ops = some s) :
    ∀ o ∈ s.outputs, ∀ pre post sid clock args, o.flatten = pre ++ Entry.event sid clock args :: post →
      (∃ src, Entry.source src ∈ pre ∧ src.id = sid) ∧ (∃ c, Entry.clockSync c ∈ pre) :=
  C03.c03_source_before_event cs ops s hok hrun

/-- **A rotation re-writes exactly the metadata consumed so far**: the new output starts with every
    clock sync ever set followed by every source already consumed; sources not yet consumed are
    written by the next consume (before any event), so nothing is missing and nothing is doubled. -/
theorem c13_rotation_writes_metadata (s : Session) (h : s.outputs ≠ []) :
    curEntries (step s .rotate |>.getD s) = s.clockSyncs ++ s.sources.take s.sourcesConsumed := by
  simp [step, reconsumeMetadata_fst, curEntries]

/-- **C13 — the event entries of all outputs, concatenated in output order and write order, are
    exactly the delivered events**, in delivery order, each once: a rotation neither drops nor
    repeats an event (the metadata `reconsumeMetadata` repeats contains no events), and every
    event goes to exactly one output.  Holds for every trace (`TraceOk`) and every consume oracle. -/
theorem c13_partition (cs : ClockSync) (ops : List Op) (s : Session)
    (hok : TraceOk (init cs) ops) (hrun : exec (init cs) ops = some s) :
    (s.outputs.flatten.flatten).filter Entry.isEvent = s.delivered.map (·.2) :=
  (exec_induction (fun s => MetaInv s ∧ OutInv s) (init cs) ops s ⟨metaInv_init cs, by simp [OutInv, init]⟩ hok
    (fun s op s1 h ho hs => ⟨metaInv_step s op s1 h.1 ho hs, outInv_step s op s1 h.1 h.2 hs⟩) hrun).2

/-- **With C02: every event accepted from writer `w` is, exactly once and in order, either among
    the events of the outputs (attributed to `w` by the delivery log) or still queued**; nothing
    is lost.  `s.delivered` is both the per-writer decomposition of C02 and, projected to the
    events, the content of the outputs. -/
theorem c13_no_loss_no_dup (cs : ClockSync) (ops : List Op) (s : Session)
    (hok : SyncTrace (init cs) ops) (hrun : exec (init cs) ops = some s) :
    (s.outputs.flatten.flatten).filter Entry.isEvent = s.delivered.map (·.2) ∧
    (∀ w, ofW w (logCalls ops) = ofW w s.delivered ++ pendingOf w s.channels) ∧ s.lost = [] := by
  have h := C02.c02_exactly_once_in_order cs ops s hok hrun
  rw [C02.c02_accepted_is_what_was_logged cs ops s hrun] at h
  exact ⟨c13_partition cs ops s hok.traceOk hrun, h⟩

/-! Non-vacuity: rotate twice in a row before any consume, with events and sources pending. -/
def exOps : List Op := [.createWriter 1 0 [], .addSource {}, .log 1 1 10 [] true, .rotate, .rotate,
  .consume [⟨false, 5, 0⟩], .addSource {}, .log 1 2 11 [] true, .rotate, .consume [⟨false, 5, 0⟩]]

example : TraceOk (init {}) exOps := by decide

example : ((exec (init {}) exOps).map (·.outputs.length)) = some 4 := by decide

/-! Non-vacuity: events before and after a rotation; the outputs are a partition of them. -/
def exOpsPartition : List Op :=
  [.createWriter 1 0 [], .addSource {}, .log 1 1 10 [] true, .log 1 1 11 [] true,
   .consume [⟨false, 1, 0⟩], .rotate, .log 1 1 12 [] false, .consume [⟨true, 9, 1⟩, ⟨false, 9, 0⟩]]

example : TraceOk (init {}) exOpsPartition := by decide

example : (exec (init {}) exOpsPartition).map (fun s => s.outputs.map (fun o => o.flatten.filter Entry.isEvent)) =
    some [[.event 1 10 []], [.event 1 11 [], .event 1 12 []]] := by decide

end BinlogVerif.C13
