import BinlogVerif.Lemmas.Classify
/-
  C15 — Forward compatibility: unknown metadata entries and trailing fields are ignored.
-/
namespace BinlogVerif.C15
open BinlogVerif

/-- the payload is an unknown special entry: top bit of the tag set, not one of the three -/
def isUnknownSpecial (p : Bytes) : Bool :=
  match classify p with
  | .unknownSpecial _ => true
  | _ => false

/-- the definition above is exactly "any tag with the top bit set other than the three defined" -/
theorem isUnknownSpecial_iff (tag : Nat) (body : Bytes) (ht : tag < 2^64) :
    isUnknownSpecial (le 8 tag ++ body) = true ↔
      (isSpecial tag = true ∧ tag ≠ tagEventSource ∧ tag ≠ tagWriterProp ∧ tag ≠ tagClockSync) := by
  unfold isUnknownSpecial
  constructor
  · -- the eliminator's one case of this kind comes with these facts about the tag it read, which is `tag`
    generalize hp : le 8 tag ++ body = p
    induction p using classify_cases with
    | unknownSpecial hr hs h1 h2 h3 =>
      rw [← hp, readU_le_append 8 tag body ht] at hr
      cases hr
      exact fun _ => ⟨hs, h1, h2, h3⟩
    | _ => nofun
  · rintro ⟨hs, h1, h2, h3⟩
    simp [classify_tagged body ht, hs, h1, h2, h3]

theorem unknown_is_noop (st : ReaderState) (p : Bytes) (h : isUnknownSpecial p = true) :
    stepEntry st p = some ([], st) := by
  unfold isUnknownSpecial at h
  unfold stepEntry
  rw [processEntry_eq_spec]
  cases hk : classify p <;> simp [hk] at h
  simp [processSpec]

/-- **C15 (unknown specials).**  Removing — equivalently inserting — unknown special entries at
    any set of positions, with any payloads, changes nothing the reader reports: same events with
    the same sources, writer descriptions, clock syncs, clocks and arguments, same errors. -/
theorem c15_unknown_specials (st : ReaderState) (ps : List Bytes) :
    readAll st (ps.filter (fun p => !isUnknownSpecial p)) = readAll st ps := by
  induction ps generalizing st with
  | nil => rfl
  | cons p ps ih =>
    by_cases h : isUnknownSpecial p = true
    · simp [h, readAll, unknown_is_noop st p h, ih]
    · simp [h, readAll, ih]

/-- inserting one unknown special entry anywhere -/
theorem c15_insert_unknown (st : ReaderState) (a b : List Bytes) (u : Bytes)
    (hu : isUnknownSpecial u = true) :
    readAll st (a ++ u :: b) = readAll st (a ++ b) := by
  rw [← c15_unknown_specials st (a ++ u :: b), ← c15_unknown_specials st (a ++ b)]
  simp [List.filter_append, hu]

/-- valid metadata kinds: a source, writer description or clock sync that deserialised -/
def isValidMeta : PayloadKind → Bool
  | .source _ => true
  | .writerProp _ => true
  | .clockSync _ => true
  | _ => false

/-- Appending bytes to a *valid* metadata payload (source, writer description, clock sync) — with
    the size prefix adjusted, which `frame` does — leaves its kind and decoded value unchanged. -/
theorem c15_trailing_metadata (p x : Bytes) (h : isValidMeta (classify p) = true) :
    classify (p ++ x) = classify p := by
  obtain ⟨s1, s2, s3, n12, n13, n23⟩ := special_tags
  induction p using classify_cases with
  | source hr hd =>
    obtain ⟨rfl, ht⟩ := readU_ok_iff.mp hr
    simp [classify_tagged _ ht, s1, decSource_stable x hd]
  | writerProp hr hd =>
    obtain ⟨rfl, ht⟩ := readU_ok_iff.mp hr
    simp [classify_tagged _ ht, s2, n12.symm, decWriterProp_stable x hd]
  | clockSync hr hd =>
    obtain ⟨rfl, ht⟩ := readU_ok_iff.mp hr
    simp [classify_tagged _ ht, s3, n13.symm, n23.symm, decClockSync_stable x hd]
  | _ => cases h

/-- hence the reader does exactly the same on the padded entry as on the original one -/
theorem c15_trailing_metadata_state (st : ReaderState) (p x : Bytes)
    (hvalid : isValidMeta (classify p) = true) :
    processEntry st (p ++ x) = processEntry st p := by
  rw [processEntry_eq_spec, processEntry_eq_spec, c15_trailing_metadata p x hvalid]

/-- Appending bytes to a valid event payload yields the same event (same source, same clock) whose
    argument range is extended by exactly those bytes.  That the *text* is unchanged follows from
    the visitor consuming exactly the bytes the argument tags describe (`C06`/`Visit` model). -/
theorem c15_trailing_event (st : ReaderState) (p x : Bytes) (ev : Event)
    (h : (processEntry st p).1 = .ok (.event ev)) :
    (processEntry st (p ++ x)).1 = .ok (.event { ev with arguments := ev.arguments ++ x }) := by
  rw [processEntry_eq_spec] at h ⊢
  induction p using classify_cases with
  | event id rest hr hs =>
    obtain ⟨rfl, ht⟩ := readU_ok_iff.mp hr
    rw [List.append_assoc, classify_tagged _ ht, if_neg (by simp [hs])]
    simp only [processSpec] at h ⊢
    cases hf : st.sources.find id with
    | none => simp [hf] at h
    | some src =>
      rw [hf] at h
      rcases hc : readU 8 rest with e | ⟨clock, args⟩ <;> simp only [hc] at h <;> cases h
      simp only [readU_stable 8 x hc]
  | _ => cases h

/-! Non-vacuity: tag `2^64 - 7` with a junk payload is unknown-special and is ignored between a
    source and its event; a source padded with two bytes defines the same source. -/
def src1 : Bytes := sourcePayload { id := 1, formatString := [104, 105] }
def junk : Bytes := le 8 (2^64 - 7) ++ [1, 2, 3]
example : isUnknownSpecial junk = true := by decide
example : readAll {} [src1, junk, eventPayload 1 9 [], junk] = readAll {} [src1, eventPayload 1 9 []] := by decide
example : readAll {} [src1 ++ [7, 7], eventPayload 1 9 []] = readAll {} [src1, eventPayload 1 9 []] := by decide

end BinlogVerif.C15
