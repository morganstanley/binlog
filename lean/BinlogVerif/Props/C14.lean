import BinlogVerif.Lemmas.ReaderState
/-
  C14 — Reader state: latest definition wins; an invalid entry affects nothing else.
-/
namespace BinlogVerif.C14
open BinlogVerif

/-- **SegmentedMap refines a function map** for all 2^64 keys (`SegMap.find_emplace`). -/
theorem c14_segmap_is_map {V} (m : SegMap V) (k k' : Nat) (v : V)
    (h : SegMap.Inv m) (hk : k < 2^64) (hk' : k' < 2^64) :
    SegMap.find (SegMap.emplace m k v) k' = if k' = k then some v else SegMap.find m k' :=
  SegMap.find_emplace m k k' v h hk hk'

theorem c14_segmap_inv {V} : SegMap.Inv (SegMap.empty : SegMap V) ∧
    ∀ (m : SegMap V) k v, SegMap.Inv m → k < 2^64 → SegMap.Inv (SegMap.emplace m k v) :=
  ⟨SegMap.inv_empty, SegMap.inv_emplace⟩

/-- the most recent valid definition of `id` among the payloads `pre` -/
def lastDef (pre : List Bytes) (id : Nat) : Option EventSource :=
  (pre.filterMap asSource).reverse.find? (fun s => s.id == id)

/-- the most recent valid writer description / clock sync among `pre` -/
def lastWriterProp (pre : List Bytes) : Option WriterProp := (pre.filterMap asWriterProp).reverse.head?
def lastClockSync (pre : List Bytes) : Option ClockSync := (pre.filterMap asClockSync).reverse.head?

/-- **Latest definition wins (state).**  After any sequence of payloads (arbitrary ids, order,
    redefinitions, invalid entries anywhere) the reader's source table maps every 64-bit id to the
    most recent valid definition, and holds the most recent valid writer description and clock sync. -/
theorem c14_state_is_latest (st : ReaderState) (pre : List Bytes)
    (hinv : SegMap.Inv st.sources) (hns : (runState st pre).2 = false) :
    (∀ id, id < 2^64 →
      (runState st pre).1.sources.find id = ((lastDef pre id).or (st.sources.find id))) ∧
    (runState st pre).1.writerProp = (lastWriterProp pre).getD st.writerProp ∧
    (runState st pre).1.clockSync = (lastClockSync pre).getD st.clockSync := by
  rw [runState_eq_foldl st pre hns]
  refine ⟨?_, foldl_latest asWriterProp (·.writerProp) (fun _ _ => rfl) st pre,
    foldl_latest asClockSync (·.clockSync) (fun _ _ => rfl) st pre⟩
  clear hns
  induction pre generalizing st with
  | nil => intro id _; rfl
  | cons p ps ih =>
    intro id hid
    rw [List.foldl_cons, ih _ (metaUpdate_inv st p hinv) id hid]
    simp only [lastDef, List.filterMap_cons, metaUpdate]
    cases hs : asSource p with
    | none => rfl
    | some s =>
      -- the later definitions, else this one, else the table before
      rw [List.reverse_cons, List.find?_append, Option.or_assoc, List.find?_singleton,
        SegMap.find_emplace _ _ _ _ hinv (asSource_id_lt hs) hid]
      congr 1
      simp only [beq_iff_eq, eq_comm (a := id)]
      split <;> rfl

/-- **Latest definition wins (events).**  An event payload (non-special tag `id`, 8-byte clock,
    arguments) read after `pre` is interpreted with the most recent valid definition of `id`, and
    reported with the most recent writer description and clock sync; with no definition it is an
    `invalid source` error. -/
theorem c14_latest_wins (pre : List Bytes) (id clock : Nat) (args : Bytes)
    (hns : (runState {} pre).2 = false) (hid : id < 2^63) (hclock : clock < 2^64) :
    readAll {} (pre ++ [eventPayload id clock args]) = readAll {} pre ++
      [match lastDef pre id with
       | some src => Item.event ⟨src, clock, args⟩
            ((lastWriterProp pre).getD {}) ((lastClockSync pre).getD {})
       | none => Item.error .invalidSource] := by
  obtain ⟨h1, h2, h3⟩ := c14_state_is_latest {} pre SegMap.inv_empty hns
  rw [readAll_append _ _ _ hns]
  have hfind := h1 id (Nat.lt_trans hid (by decide))
  rw [SegMap.find_empty, Option.or_none] at hfind
  generalize (runState {} pre).1 = st at *
  have hcl : clock < 256 ^ 8 := by simpa using hclock
  simp only [readAll, stepEntry, eventPayload, List.append_assoc]
  rw [processEntry_event st id _ hid, hfind]
  cases hl : lastDef pre id with
  | none => rfl
  | some src =>
    rw [readU_le_append 8 clock _ hcl]
    simp [h2, h3]

/-- **An invalid entry is local.**  If payload `p` is reported as an error in the state reached
    after `es₁`, then the whole read is: items of `es₁`, that one error, then exactly the items
    that `es₂` produces when `p` is absent. -/
theorem c14_invalid_local (st : ReaderState) (es₁ es₂ : List Bytes) (p : Bytes) (e : Err)
    (hns : (runState st es₁).2 = false)
    (herr : (processEntry (runState st es₁).1 p).1 = .error e) :
    readAll st (es₁ ++ p :: es₂) = readAll st es₁ ++ Item.error e :: readAll (runState st es₁).1 es₂ ∧
    readAll st (es₁ ++ es₂) = readAll st es₁ ++ readAll (runState st es₁).1 es₂ := by
  refine ⟨?_, readAll_append st es₁ es₂ hns⟩
  rw [readAll_append st es₁ _ hns, readAll, stepEntry_of_error herr]
  rfl

/-! The invalid kinds the property lists are all reported as errors. -/

/-- payload shorter than a tag -/
theorem c14_invalid_short_tag (st : ReaderState) (p : Bytes) (h0 : p ≠ []) (h : p.length < 8) :
    (processEntry st p).1 = .error .overflow := by
  rw [processEntry_eq_spec, classify_short h0 h]
  rfl

/-- event with an unknown source id -/
theorem c14_invalid_unknown_id (st : ReaderState) (id : Nat) (rest : Bytes) (hid : id < 2^63)
    (hunk : st.sources.find id = none) :
    (processEntry st (le 8 id ++ rest)).1 = .error .invalidSource := by
  rw [processEntry_event st id rest hid, hunk]

/-- event too short to hold a clock -/
theorem c14_invalid_short_clock (st : ReaderState) (id : Nat) (rest : Bytes) (src : EventSource)
    (hid : id < 2^63) (hk : st.sources.find id = some src) (hshort : rest.length < 8) :
    (processEntry st (le 8 id ++ rest)).1 = .error .overflow := by
  rw [processEntry_event st id rest hid, hk]
  rw [readU_short 8 rest hshort]

/-- truncated metadata payload: a known special tag whose body does not deserialise -/
theorem c14_invalid_metadata (st : ReaderState) (body : Bytes) :
    (∀ e, decSource body = .error e → (processEntry st (le 8 tagEventSource ++ body)).1 = .error e) ∧
    (∀ e, decWriterProp body = .error e → (processEntry st (le 8 tagWriterProp ++ body)).1 = .error e) ∧
    (∀ e, decClockSync body = .error e → (processEntry st (le 8 tagClockSync ++ body)).1 = .error e) := by
  obtain ⟨s1, s2, s3, n12, n13, n23⟩ := special_tags
  refine ⟨fun e he => ?_, fun e he => ?_, fun e he => ?_⟩ <;>
    rw [processEntry_eq_spec, classify_tagged body (by decide)]
  · simp [s1, he, processSpec]
  · simp [s2, n12.symm, he, processSpec]
  · simp [s3, n13.symm, n23.symm, he, processSpec]

/-! Non-vacuity: a concrete log with a redefinition, an invalid entry in the middle, and events
    before and after. -/
def exSrc (id : Nat) (fmt : Bytes) : Bytes :=
  sourcePayload { id := id, formatString := fmt }

example :
    readAll {} [exSrc 5 [97], eventPayload 5 1 [], eventPayload 9 2 [], exSrc 5 [98], eventPayload 5 3 []]
      = [ Item.event ⟨{ id := 5, formatString := [97] }, 1, []⟩ {} {},
          Item.error .invalidSource,
          Item.event ⟨{ id := 5, formatString := [98] }, 3, []⟩ {} {} ] := by
  decide

end BinlogVerif.C14
