import BinlogVerif.Lemmas.Split
import BinlogVerif.Reader.Bread
/-
  C12 — Truncated logs: every whole entry before the cut is read, then a clean error.

  `splitEntries` is the entry stream on *arbitrary* bytes: payloads of the whole entries, the
  stream position after them (`consumed`; the istream version rewinds to it on error), and how
  the input ends.  Reading = `readAll` over those payloads (C14's model).
-/
namespace BinlogVerif.C12
open BinlogVerif

/-- number of entries of `ps` that lie entirely inside the first `n` bytes of `frames ps` -/
def wholeCount : List Bytes → Nat → Nat
  | [], _ => 0
  | p :: ps, n => if 4 + p.length ≤ n then 1 + wholeCount ps (n - (4 + p.length)) else 0

/-- **Position / soundness on arbitrary input.**  Whatever the bytes are, the entries returned are
    a prefix of the input in framed form, and `consumed` — where the stream stands after an
    error — is the start offset of the first incomplete entry. -/
theorem c12_position (a : Bytes) :
    let r := splitEntries a
    a = frames r.1 ++ a.drop r.2.1 ∧ r.2.1 = (frames r.1).length ∧ (∀ p ∈ r.1, PayloadOk p) ∧
    (r.2.2 = .clean ↔ r.2.1 = a.length) := by
  induction a using splitEntries_induction with
  | nil => exact ⟨rfl, rfl, nofun, fun _ => rfl, fun _ => rfl⟩
  | cut a t ha ht hs =>
    rw [hs]
    exact ⟨rfl, rfl, nofun, ⟨fun h => absurd h ht, fun h => absurd (List.length_eq_zero_iff.mp h.symm) ha⟩⟩
  | step p rest hp ih =>
    obtain ⟨i1, i2, i3, i4⟩ := ih
    rw [splitEntries_frame p rest hp]
    refine ⟨?_, ?_, ?_, ?_⟩
    · rw [frames_cons, List.append_assoc, drop_frame_append, ← i1]
    · rw [frames_cons, List.length_append, frame_length, ← i2]
    · exact List.forall_mem_cons.mpr ⟨hp, i3⟩
    · rw [i4, List.length_append, frame_length, Nat.add_left_cancel_iff]

/-- `splitEntries` of a whole well-formed log returns all its payloads and ends clean. -/
theorem splitEntries_frames (ps : List Bytes) (hok : ∀ p ∈ ps, PayloadOk p) :
    splitEntries (frames ps) = (ps, (frames ps).length, .clean) := by
  induction ps with
  | nil => rfl
  | cons p ps ih =>
    obtain ⟨hp, hps⟩ := List.forall_mem_cons.mp hok
    rw [frames_cons, splitEntries_frame p _ hp, ih hps, List.length_append, frame_length]

/-- **Resume.**  For arbitrary bytes `a` followed later by `b`: the entries of `a ++ b` are the
    entries already read from `a`, followed by what reading yields when it continues at the
    position the stream was rewound to (`a.drop consumed`) once `b` has arrived. -/
theorem c12_resume_step (a b : Bytes) :
    let r := splitEntries a
    let r' := splitEntries (a.drop r.2.1 ++ b)
    splitEntries (a ++ b) = (r.1 ++ r'.1, r.2.1 + r'.2.1, r'.2.2) := by
  induction a using splitEntries_induction with
  | nil => simp [splitEntries, splitEntriesFuel, nextEntry]
  | cut a t ha ht hs => rw [hs]; simp
  | step p rest hp ih =>
    simp only at ih ⊢
    rw [List.append_assoc, splitEntries_frame p rest hp, splitEntries_frame p _ hp, ih, drop_frame_append]
    simp only [List.cons_append, Nat.add_assoc]

/-- the entries read from a prefix of a well-formed log are the entries that lie entirely inside it -/
theorem splitEntries_take_frames (ps : List Bytes) (hok : ∀ p ∈ ps, PayloadOk p) (n : Nat) :
    (splitEntries ((frames ps).take n)).1 = ps.take (wholeCount ps n) := by
  induction ps generalizing n with
  | nil => rw [show frames [] = [] from rfl, List.take_nil]; rfl
  | cons p ps ih =>
    obtain ⟨hp, hps⟩ := List.forall_mem_cons.mp hok
    rw [frames_cons]
    simp only [wholeCount]
    by_cases hw : 4 + p.length ≤ n
    · rw [if_pos hw, List.take_append, frame_length,
        List.take_of_length_le (by rw [frame_length]; exact hw), splitEntries_frame p _ hp,
        Nat.add_comm 1, List.take_succ_cons, ih hps]
    · -- the cut is inside the first entry: the stream stops there
      rw [if_neg hw, splitEntries_take_frame p _ hp (by omega)]
      rfl

/-- **C12 (prefix).**  For every well-formed log `frames ps` and every cut offset `n`: the entry
    stream yields exactly the entries that lie entirely inside the first `n` bytes, in order, is
    positioned at the start of the incomplete entry, and ends clean iff the cut is on an entry
    boundary (otherwise `truncSize`/`truncPayload`, which the reader reports as an error). -/
theorem c12_prefix (ps : List Bytes) (hok : ∀ p ∈ ps, PayloadOk p) (n : Nat) (hn : n ≤ (frames ps).length) :
    let r := splitEntries ((frames ps).take n)
    r.1 = ps.take (wholeCount ps n) ∧
    r.2.1 = (frames (ps.take (wholeCount ps n))).length ∧
    (r.2.2 = .clean ↔ n = (frames (ps.take (wholeCount ps n))).length) := by
  -- where the stream stands and how it ends are `c12_position` for the entries read
  have h1 := splitEntries_take_frames ps hok n
  obtain ⟨-, h2, -, h4⟩ := c12_position ((frames ps).take n)
  rw [List.length_take, Nat.min_eq_left hn] at h4
  rw [h1] at h2
  exact ⟨h1, h2, h4.trans (by rw [h2]; exact eq_comm)⟩

/-- Reading a prefix with `bread`'s loop: exactly the items of the whole entries inside the cut
    (events in order), followed by the stream error iff the cut is not on an entry boundary. -/
theorem c12_prefix_events (ps : List Bytes) (hok : ∀ p ∈ ps, PayloadOk p) (n : Nat)
    (hn : n ≤ (frames ps).length) (st : ReaderState) :
    readAll st (splitEntries ((frames ps).take n)).1 = readAll st (ps.take (wholeCount ps n)) := by
  rw [(c12_prefix ps hok n hn).1]

/-- **C12 for `TextOutputStream`** (an output that parses what it receives): handing it a prefix of a well-formed log
    that is cut anywhere leaves on the output exactly what handing it the whole entries before the cut leaves there — every
    event that lies entirely inside the prefix is printed, with the same reader state afterwards — and, unless an earlier
    entry already made the call throw (or a null entry ended it), the call throws iff the cut is not on an entry boundary. -/
theorem c12_textout_prefix (fmt dateFmt : Bytes) (ps : List Bytes) (hok : ∀ p ∈ ps, PayloadOk p) (n : Nat)
    (hn : n ≤ (frames ps).length) (st : ReaderState) (out : Bytes) :
    let whole := ps.take (wholeCount ps n)
    let r := Bread.textOutWrite fmt dateFmt st out ((frames ps).take n)
    let w := Bread.textOutEntries fmt dateFmt st whole out
    r.1 = w.1 ∧ r.2.1 = w.2.1 ∧
    (w.2.2.1 = none → w.2.2.2 = false →
      (r.2.2 = none ↔ n = (frames whole).length)) := by
  -- in terms of the split of the prefix alone (`c12_prefix`), both sides are the same run of `textOutEntries`
  obtain ⟨h1, -, h3⟩ := c12_prefix ps hok n hn
  simp only [Bread.textOutWrite]
  rw [← h3, ← h1]
  rcases splitEntries (List.take n (frames ps)) with ⟨qs, c, t⟩
  rcases Bread.textOutEntries fmt dateFmt st qs out with ⟨s', o', e', stp⟩
  refine ⟨rfl, rfl, ?_⟩
  rintro rfl rfl
  -- what is left of `textOutWrite` is its `match` on the tail: no error for `clean`, `overflow` for the other two
  cases t <;> simp

/-! Non-vacuity: a two-entry log cut in the size field, in the payload, and on a boundary. -/
def l2 : List Bytes := [[1,2,3,4,5,6,7,8], [9,9,9,9,9,9,9,9,9]]
example : (frames l2).length = 25 := by decide
example : wholeCount l2 11 = 0 ∧ wholeCount l2 12 = 1 ∧ wholeCount l2 14 = 1 ∧ wholeCount l2 24 = 1 ∧ wholeCount l2 25 = 2 := by decide
example : splitEntries ((frames l2).take 14) = ([[1,2,3,4,5,6,7,8]], 12, .truncSize) := by decide
example : splitEntries ((frames l2).take 20) = ([[1,2,3,4,5,6,7,8]], 12, .truncPayload) := by decide
example : splitEntries ((frames l2).take 12) = ([[1,2,3,4,5,6,7,8]], 12, .clean) := by decide

end BinlogVerif.C12
