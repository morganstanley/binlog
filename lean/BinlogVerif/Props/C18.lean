import BinlogVerif.Reader.Filter
/-
  C18 — Sorted reading is a stable reordering of unsorted reading.

  `printUnsorted`/`printSorted` model the two loops of bin/printers.cpp over the items the
  reader produces (events, or the exception that ends the read); `std::stable_sort` is modelled by
  core's `List.mergeSort`, whose stability is a theorem of Lean core, not an assumption.
-/
namespace BinlogVerif.C18
open BinlogVerif List

theorem mergeSort_key_stable {α : Type} (key : α → Nat) (l : List α) :
    let s := l.mergeSort (fun a b => key a ≤ key b)
    s ~ l ∧ s.Pairwise (fun a b => key a ≤ key b) ∧
      ∀ c, s.filter (fun a => key a == c) = l.filter (fun a => key a == c) := by
  have trans : ∀ a b c : α, decide (key a ≤ key b) → decide (key b ≤ key c) → decide (key a ≤ key c) :=
    fun _ _ _ h1 h2 => decide_eq_true (Nat.le_trans (of_decide_eq_true h1) (of_decide_eq_true h2))
  have total : ∀ a b : α, decide (key a ≤ key b) || decide (key b ≤ key a) :=
    fun a b => by simpa using Nat.le_total (key a) (key b)
  have perm := mergeSort_perm l (fun a b => key a ≤ key b)
  refine ⟨perm, (pairwise_mergeSort trans total l).imp of_decide_eq_true, fun c => ?_⟩
  -- the elements of key `c` are a sorted sublist of `l`, hence of the result, and as many
  have sorted : (l.filter (key · == c)).Pairwise (fun a b => decide (key a ≤ key b)) :=
    pairwise_of_forall_mem_list fun a ha b hb => by
      rw [beq_iff_eq.1 (mem_filter.1 ha).2, beq_iff_eq.1 (mem_filter.1 hb).2]
      exact decide_eq_true (Nat.le_refl c)
  have sub := (sublist_mergeSort trans total sorted filter_sublist).filter (key · == c)
  simp only [filter_filter, Bool.and_self] at sub
  exact (sub.eq_of_length (perm.filter _).length_eq.symm).symm

/-- **C18.**  For every item sequence a read produces (events, possibly ended by an invalid or
    truncated entry): the sorted printer prints a permutation of exactly the lines the unsorted
    printer prints (same multiset — no readable event disappears), in non-decreasing clock order,
    with lines of equal clock in their file order; both report the same error (if any). -/
theorem c18_perm_stable {T} (render : Event → WriterProp → ClockSync → T) (items : List Item) :
    let u := printUnsorted render items
    let s := printSorted render items
    s.2 = u.2 ∧
    s.1 ~ u.1 ∧
    s.1.Pairwise (fun a b => a.1 ≤ b.1) ∧
    ∀ c, s.1.filter (fun l => l.1 == c) = u.1.filter (fun l => l.1 == c) :=
  ⟨rfl, mergeSort_key_stable (Prod.fst : Line T → Nat) (printUnsorted render items).1⟩

/-- the unsorted printer prints the events before the first error, in order -/
theorem c18_unsorted_is_prefix {T} (render : Event → WriterProp → ClockSync → T) (items : List Item) :
    (printUnsorted render items).1 =
      (items.takeWhile (fun it => !it.isError)).filterMap (fun it => match it with
        | .event ev wp cs => some (ev.clockValue, render ev wp cs)
        | .error _ => none) := by
  induction items with
  | nil => rfl
  | cons it rest ih =>
    cases it with
    | error e => rfl
    | event ev wp cs => exact congrArg (_ :: ·) ih

/-! Non-vacuity (the theorem has no hypotheses); a concrete unsorted run with out-of-order
    clocks, a tie and a trailing error. -/
def ev (c : Nat) : Item := .event ⟨{}, c, []⟩ {} {}
example :
    (printUnsorted (fun e _ _ => e.clockValue) [ev 5, ev 3, ev 5, ev 1, .error .truncPayload]) =
      ([(5,5),(3,3),(5,5),(1,1)], some .truncPayload) := by
  decide

end BinlogVerif.C18
