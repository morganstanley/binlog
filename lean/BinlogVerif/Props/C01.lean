import BinlogVerif.Lemmas.QueueMain
/-
  C01 — The lock-free SPSC byte queue (Queue / QueueWriter / QueueReader) is correct under the
  C++11 release/acquire memory model.

  Model: `BinlogVerif/Conc/Queue.lean` (view-based operational semantics; every cross-thread load
  may read any coherent message, the choice is part of the operation list).  The theorems below
  hold for EVERY capacity, EVERY finite list of operations and EVERY reads-from choice, provided
  the four memory orders are at least the ones the code uses (`Orders.Sufficient`; the default
  `{}` is exactly the code).  They mention only non-ghost fields of the state and the logs
  `race`, `commits`, `delivered`; the inductive invariant behind them is `Q.Inv`
  (Lemmas/QueueInv.lean).

  The examples at the end show that the statements are not vacuous (the model runs and delivers,
  also across a wrap-around) and that each of the four orders is needed.
-/
namespace BinlogVerif.C01

/-- **C01.1 — no data race.**  No non-atomic access (buffer cell or the plain field `dataEnd`)
    ever conflicts with an access of the other thread that does not happen-before it; and the
    consumer never observes `dataEnd > capacity`. -/
theorem c01_race_free (o : Q.Orders) (h : o.Sufficient) (cap : Nat) (tr : List Q.Op) (s : Q.St)
    (run : Q.exec o (Q.init cap) tr = some s) : s.race = none :=
  (Q.inv_exec o h cap tr s run).nr

/-- **C01.2 — FIFO, exactly once, whole commits.**  The bytes delivered so far (all batches
    concatenated) are a prefix of the bytes committed so far (all commits concatenated); every
    batch boundary is a commit boundary (each prefix of the delivered batches concatenates to a
    whole number of commits); committed bytes are pairwise distinct tokens, so "prefix" means each
    byte is delivered at most once, in order, with nothing skipped. -/
theorem c01_fifo_exactly_once (o : Q.Orders) (h : o.Sufficient) (cap : Nat) (tr : List Q.Op) (s : Q.St)
    (run : Q.exec o (Q.init cap) tr = some s) :
    s.delivered.flatten <+: s.commits.flatten ∧
    (∀ d, ∃ c, (s.delivered.take d).flatten = (s.commits.take c).flatten) ∧
    s.commits.flatten.Nodup := by
  have hi := Q.inv_exec o h cap tr s run
  exact ⟨hi.boundary_delivered.isPrefix, fun d => (hi.g8 d).imp fun _ hc => hc.2, hi.g4h ▸ List.nodup_range'⟩

/-- **C01.2b — each contiguous piece is a run of whole commits.**  `beginRead` returns one piece
    (`pieces = [b]`) or, when the readable data wraps, two (`pieces = [b1, b2]`: cells
    `[r, dataEnd)` and cells `[0, w)`); `batch` is their concatenation.  Every piece ends on a
    commit boundary: what was delivered before, followed by any number of leading pieces, is the
    concatenation of a whole number of commits.  In particular the split point of a wrapped read
    is a commit boundary — no commit is ever split across the wrap.  (This relies on the writer
    protocol built into the model: the window is only re-chosen — `pBegin` with a reload — when
    there are no uncommitted bytes, so each commit is written contiguously between a `pBegin`
    and its `pEnd`.) -/
theorem c01_pieces_whole_commits (o : Q.Orders) (h : o.Sufficient) (cap : Nat) (tr : List Q.Op) (s : Q.St)
    (run : Q.exec o (Q.init cap) tr = some s) :
    s.batch = s.pieces.flatten ∧ s.pieces.length ≤ 2 ∧
    (∀ p, ∃ k, s.delivered.flatten ++ (s.pieces.take p).flatten = (s.commits.take k).flatten) ∧
    (∀ b1 b2, s.pieces = [b1, b2] →
      ∃ k₁ k₂, s.delivered.flatten ++ b1 = (s.commits.take k₁).flatten ∧
               s.delivered.flatten ++ b1 ++ b2 = (s.commits.take k₂).flatten) := by
  have hi := Q.inv_exec o h cap tr s run
  refine ⟨hi.g13, hi.g14, fun p => (hi.g12 p).imp fun _ hc => hc.2.symm, fun b1 b2 hp => ?_⟩
  obtain ⟨k1, -, h1⟩ := hi.g12 1
  obtain ⟨k2, -, h2⟩ := hi.g12 2
  rw [hp] at h1 h2
  exact ⟨k1, k2, by rw [h1]; simp, by rw [h2]; simp⟩

/-- cells holding committed bytes the consumer has not released yet, in terms of the real
    indices: `cR` = the value of `readIndex` (the consumer's last store), `pW` = the value of
    `writeIndex` (the producer's last store).  If `cR ≤ pW` these are `[cR, pW)`; otherwise the
    data wraps and they are (a subset of) `[cR, cap) ∪ [0, pW)`. -/
def unreleased (s : Q.St) (x : Nat) : Prop :=
  if s.cR ≤ s.pW then s.cR ≤ x ∧ x < s.pW else s.cR ≤ x ∨ x < s.pW

/-- **C01.3 — the write window is the producer's alone.**  The window `[wp, we)` handed out by
    `beginWrite` lies inside the buffer; none of its cells holds unreleased data (w.r.t. the
    consumer's actual `readIndex`, not the possibly stale value the producer loaded); and each
    of its cells was last read in a consumer epoch that is both finished (`< cEpoch`, i.e. not
    part of a batch the consumer may still be looking at) and visible to the producer
    (`≤ pSees`). -/
theorem c01_window_disjoint (o : Q.Orders) (h : o.Sufficient) (cap : Nat) (tr : List Q.Op) (s : Q.St)
    (run : Q.exec o (Q.init cap) tr = some s) :
    s.we ≤ s.cap ∧
    ∀ x, s.wp ≤ x → x < s.we →
      ¬ unreleased s x ∧ s.rEp.getD x 0 < s.cEpoch ∧ s.rEp.getD x 0 ≤ s.pSees := by
  have hi := Q.inv_exec o h cap tr s run
  refine ⟨hi.a7e, fun x h1 h2 => ⟨?_, ?_⟩⟩
  · -- if `pW < cR` then `c` is a lap behind the head, hence on `k`'s lap with `kVal ≤ cR`; the rest is as for `Inv.window`
    unfold unreleased
    cases hw : s.wrapP
    · gr [hi.c2 hw, hi.p1, hi.p2, hi.p3, hi.b1]
    · gr [hi.c1 hw, hi.p1, hi.p2, hi.p3]
  · have := hi.window_rEp h1 h2
    exact ⟨by om [hi.a2p, hi.a1c], by om [hi.a3p]⟩

/-- **C01.4 — a failed space request loses nothing.**  From any reachable state, a `beginWrite`
    (`pBegin n j`, any size, any reads-from choice) that returns `false` leaves the committed
    data intact: the commit/delivery logs, the W history, the cell contents and the pending
    bytes are unchanged, no race is flagged (in particular not by the write of `dataEnd` a failed
    request may perform), and every `beginRead` the consumer could do before (`cBegin i`, any
    readable message `i`) it can still do, and it returns the same bytes.
    (The premise `hfail` is not used: the same holds for a successful request.) -/
theorem c01_failed_begin_loses_nothing (o : Q.Orders) (h : o.Sufficient) (cap : Nat) (tr : List Q.Op)
    (s : Q.St) (run : Q.exec o (Q.init cap) tr = some s)
    (n j : Nat) (s2 : Q.St) (hstep : Q.step o s (Q.Op.pBegin n j) = some s2)
    (_hfail : ¬ n ≤ s2.we - s2.wp) :
    s2.commits = s.commits ∧ s2.delivered = s.delivered ∧ s2.wHist = s.wHist ∧
    s2.data = s.data ∧ s2.pending = s.pending ∧ s2.race = none ∧
    ∀ i sc, Q.step o s (Q.Op.cBegin i) = some sc →
      ∃ sc2, Q.step o s2 (Q.Op.cBegin i) = some sc2 ∧ sc2.batch = sc.batch ∧ sc2.race = none := by
  have hi := Q.inv_exec o h cap tr s run
  have hi2 := Q.inv_pBegin o h hi hstep
  obtain ⟨hcm, hdl, hwh, hda, hpe, hcw, hcr, hcb⟩ := Q.pBegin_fields hstep
  refine ⟨hcm, hdl, hwh, hda, hpe, hi2.nr, fun i sc hsc => ?_⟩
  obtain ⟨m, r, er, ps, hc, hm, rfl, -⟩ := Q.cBegin_some o h hi hsc
  obtain ⟨r2, er2, ps2, e2, hisc2⟩ := Q.cBegin_run o h hi2 (hcw ▸ hc) (hwh ▸ hm)
  refine ⟨_, e2, ?_, hisc2.nr⟩
  show List.range' (s2.cBase + s2.cR) _ = List.range' (s.cBase + s.cR) _
  rw [hcr, hcb]

/-- **C01.5 — a poll returns exactly the commits up to the message it read** (the refinement the session layer
    uses: a channel is a FIFO of whole commits of which a poll observes a prefix).  From any reachable state, a
    `beginRead` that reads W message `i` (any `i` coherence allows: `cWidx ≤ i ≤ commits.length`) leaves the logs alone
    and returns the batch that, appended to everything delivered before, is the concatenation of the FIRST `i` COMMITS —
    whatever was released earlier, however stale `i` is, across wrap-arounds. -/
theorem c01_poll_is_commit_prefix (o : Q.Orders) (h : o.Sufficient) (cap : Nat) (tr : List Q.Op) (s : Q.St)
    (run : Q.exec o (Q.init cap) tr = some s) (i : Nat) (sc : Q.St)
    (hstep : Q.step o s (Q.Op.cBegin i) = some sc) :
    s.cWidx ≤ i ∧ i ≤ s.commits.length ∧ sc.commits = s.commits ∧ sc.delivered = s.delivered ∧
    s.delivered.flatten ++ sc.batch = (s.commits.take i).flatten := by
  have hi := Q.inv_exec o h cap tr s run
  obtain ⟨m, r, er, ps, hc, hm, rfl, -⟩ := Q.cBegin_some o h hi hstep
  exact ⟨hc, hi.msg_le hm, rfl, rfl, (hi.boundary_msg hc hm).symm⟩

/-- **C01.6 — a poll with a fresh view gets everything.**  If the consumer's acquire load reads the NEWEST
    writeIndex message (which it does whenever the poll happens-after the producer's last commit), the batch is
    everything committed and not delivered yet: nothing stays behind in the queue. -/
theorem c01_fresh_poll_gets_all (o : Q.Orders) (h : o.Sufficient) (cap : Nat) (tr : List Q.Op) (s : Q.St)
    (run : Q.exec o (Q.init cap) tr = some s) (sc : Q.St)
    (hstep : Q.step o s (Q.Op.cBegin s.commits.length) = some sc) :
    s.delivered.flatten ++ sc.batch = s.commits.flatten := by
  have := (c01_poll_is_commit_prefix o h cap tr s run _ sc hstep).2.2.2.2
  rwa [List.take_length] at this

/-- …and such a poll is always possible (the newest message is coherent for every view) -/
theorem c01_fresh_poll_enabled (o : Q.Orders) (h : o.Sufficient) (cap : Nat) (tr : List Q.Op) (s : Q.St)
    (run : Q.exec o (Q.init cap) tr = some s) : ∃ sc, Q.step o s (Q.Op.cBegin s.commits.length) = some sc := by
  have hi := Q.inv_exec o h cap tr s run
  have hl : s.commits.length < s.wHist.length := by om [hi.g5]
  obtain ⟨r, er, ps, e, -⟩ := Q.cBegin_run o h hi (by om [hi.a2c, hi.g5]) (List.getElem?_eq_getElem hl)
  exact ⟨_, e⟩

/-- **C01.7 — release.**  `endRead` after that poll makes the delivered bytes exactly the first `i` commits. -/
theorem c01_release_is_commit_prefix (o : Q.Orders) (h : o.Sufficient) (cap : Nat) (tr : List Q.Op) (s : Q.St)
    (run : Q.exec o (Q.init cap) tr = some s) (i : Nat) (sc sd : Q.St)
    (hstep : Q.step o s (Q.Op.cBegin i) = some sc) (hend : Q.step o sc Q.Op.cEnd = some sd) :
    sd.delivered.flatten = (sd.commits.take i).flatten ∧ sd.commits = s.commits := by
  obtain ⟨-, -, c1, c2, c3⟩ := c01_poll_is_commit_prefix o h cap tr s run i sc hstep
  obtain ⟨d1, d2⟩ := Q.cEnd_logs hend
  rw [d1, d2, c1, c2]
  exact ⟨c3, rfl⟩

/-- the model runs: one commit of 4 bytes, consumed in one batch (default orders = the code) -/
example : ∃ s, Q.exec {} (Q.init 4) [.pBegin 4 0, .pWrite 4, .pEnd, .cBegin 1, .cEnd] = some s ∧
    s.commits = [[1, 2, 3, 4]] ∧ s.delivered = [[1, 2, 3, 4]] ∧ s.race = none :=
  ⟨_, rfl, by decide⟩

/-- … also across a wrap-around (capacity 6: 4 bytes, consumed; then 3 bytes do not fit on the
    right, `dataEnd := 4`, written at the start; the stale read `cBegin 1` sees nothing new) -/
example : ∃ s, Q.exec {} (Q.init 6)
      [.pBegin 4 0, .pWrite 4, .pEnd, .cBegin 1, .cEnd, .pBegin 3 1, .pWrite 3, .pEnd,
       .cBegin 1, .cEnd, .cBegin 2, .cEnd] = some s ∧
    s.E = 4 ∧ s.delivered = [[1, 2, 3, 4], [5, 6, 7]] ∧ s.race = none :=
  ⟨_, rfl, by decide⟩

/-- a wrapped read really returns two pieces (capacity 6: commit 4, consume; commit 1 at cell 4;
    3 bytes do not fit on the right: `dataEnd := 5`, commit 3 at the start; one `beginRead` then
    returns cells [4,5) and [0,3)) -/
example : ∃ s, Q.exec {} (Q.init 6)
      [.pBegin 4 0, .pWrite 4, .pEnd, .cBegin 1, .cEnd, .pBegin 1 1, .pWrite 1, .pEnd,
       .pBegin 3 1, .pWrite 3, .pEnd, .cBegin 3] = some s ∧
    s.E = 5 ∧ s.pieces = [[5], [6, 7, 8]] ∧ s.commits = [[1, 2, 3, 4], [5], [6, 7, 8]] ∧ s.race = none :=
  ⟨_, rfl, by decide⟩

/-- writeIndex store relaxed: the consumer reads a cell whose write it has not synchronised with -/
example : ∃ tr s, Q.exec {wStore := .relaxed} (Q.init 4) tr = some s ∧ s.race ≠ none :=
  ⟨[.pBegin 1 0, .pWrite 1, .pEnd, .cBegin 1], _, rfl, by decide⟩

/-- producer's load of readIndex relaxed: the producer overwrites a cell whose read it has not
    synchronised with -/
example : ∃ tr s, Q.exec {rLoadP := .relaxed} (Q.init 4) tr = some s ∧ s.race ≠ none :=
  ⟨[.pBegin 1 0, .pWrite 4, .pEnd, .cBegin 1, .cEnd, .pBegin 1 1, .pWrite 1], _, rfl, by decide⟩

/-- consumer's load of writeIndex relaxed -/
example : ∃ tr s, Q.exec {wLoadC := .relaxed} (Q.init 4) tr = some s ∧ s.race ≠ none :=
  ⟨[.pBegin 1 0, .pWrite 1, .pEnd, .cBegin 1], _, rfl, by decide⟩

/-- readIndex store relaxed -/
example : ∃ tr s, Q.exec {rStore := .relaxed} (Q.init 4) tr = some s ∧ s.race ≠ none :=
  ⟨[.pBegin 1 0, .pWrite 4, .pEnd, .cBegin 1, .cEnd, .pBegin 1 1, .pWrite 1], _, rfl, by decide⟩

/-- the default orders are the code's, and they are sufficient -/
example : ({} : Q.Orders).Sufficient := by decide

end BinlogVerif.C01
