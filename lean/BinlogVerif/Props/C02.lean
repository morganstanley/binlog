import BinlogVerif.Lemmas.SessionDeliver
/-
  C02 — Every accepted event is delivered exactly once, unmodified, in writer order.

  Model: `Conc/Session.lean` (L1).  `accepted` is the ghost log of (writer, event) pairs in the
  order the `log` calls were accepted (`c02_accepted_is_what_was_logged`), `delivered` the ghost log
  of what `consume` took out of the channels (C13 proves it is exactly the event content of the
  outputs), `lost` what was dropped together with a removed channel.  `ofW w l` is the sub-sequence
  of writer `w`; `pendingOf w chs` the events of `w` still queued (channels in creation order).

  Interleavings: any trace of operations.  Stale reads: every `consume` takes arbitrary oracle
  values (`sawClosed`, `seen`, `split`) per channel.  The one restriction is `SyncOnClose`: a poll
  that observes "closed" on a closed channel sees all of that channel's commits, i.e. observing
  the dropped reference synchronises with the writer's last commit.  Without it the property is
  false: `c02_loss_without_sync`.
-/
namespace BinlogVerif.C02
open BinlogVerif BinlogVerif.Sess

/-- **The ghost log `accepted` is exactly the sequence of log calls that were executed**, each
    recorded as (writer, the event it passed), in trace order. -/
theorem c02_accepted_is_what_was_logged (cs : ClockSync) (ops : List Op) (s : Session)
    (hrun : exec (init cs) ops = some s) : s.accepted = logCalls ops := by
  have := exec_accepted (init cs) ops s hrun
  simpa [init] using this

/-- **C02 — exactly once, unmodified, in order, nothing lost.**  In every reachable state, for every
    writer `w`: the events `w` had accepted are the events delivered for `w` followed by the events
    still queued for `w`.  So the delivered events of `w` are a prefix of its accepted events — no
    loss, duplication, reordering or modification — and what is not delivered yet is still queued.
    Covers queue replacement (`fits = false`, any event size), moved writers (a writer is its
    identity `w`) and writers destroyed right after logging. -/
theorem c02_exactly_once_in_order (cs : ClockSync) (ops : List Op) (s : Session)
    (hok : SyncTrace (init cs) ops) (hrun : exec (init cs) ops = some s) :
    (∀ w, ofW w s.accepted = ofW w s.delivered ++ pendingOf w s.channels) ∧ s.lost = [] := by
  have h := delivInv_exec cs ops s hok hrun
  exact ⟨h.order, h.nolost⟩

/-- corollary: what was delivered for a writer is a prefix of what it logged -/
theorem c02_delivered_prefix (cs : ClockSync) (ops : List Op) (s : Session)
    (hok : SyncTrace (init cs) ops) (hrun : exec (init cs) ops = some s) (w : Nat) :
    ofW w s.delivered <+: ofW w (logCalls ops) := by
  rw [← c02_accepted_is_what_was_logged cs ops s hrun, (c02_exactly_once_in_order cs ops s hok hrun).1 w]
  exact List.prefix_append _ _

/-- **C02 — delivered at the latest by the first consume that starts after the writer's last call
    returned.**  If the trace ends with a consume that runs in state `s0` and whose polls see all
    commits of every channel of `w` (`SeesAll`: the consume happens-after the writer's last call),
    then afterwards nothing of `w` is queued and everything `w` logged has been delivered. -/
theorem c02_delivered_by_next_consume (cs : ClockSync) (ops : List Op) (polls : List Poll) (s0 s : Session)
    (hok : SyncTrace (init cs) (ops ++ [.consume polls]))
    (hrun0 : exec (init cs) ops = some s0)
    (hrun : exec (init cs) (ops ++ [.consume polls]) = some s)
    (w : Nat) (hsees : SeesAll w s0.channels polls) :
    pendingOf w s.channels = [] ∧ ofW w s.delivered = ofW w s.accepted := by
  have hpend : pendingOf w s.channels = [] := by
    rw [exec_append, hrun0] at hrun
    cases hrun
    rw [consume_fst]
    exact pollAll_seesAll w s0.channels polls hsees
  refine ⟨hpend, ?_⟩
  rw [(c02_exactly_once_in_order cs _ s hok hrun).1 w, hpend, List.append_nil]

/-- a writer logs one event and is destroyed; the consumer observes the dropped reference but a
    stale (empty) queue -/
def lossOps : List Op :=
  [.createWriter 1 0 [], .addSource {}, .log 1 1 10 [] true, .destroyWriter 1, .consume [⟨true, 0, 0⟩]]

/-- **Without `SyncOnClose` events are lost**: a trace satisfying every other side condition
    (`TraceOk`) whose final state has a non-empty `lost`. -/
theorem c02_loss_without_sync :
    ∃ ops s, TraceOk (init {}) ops ∧ exec (init {}) ops = some s ∧ s.lost ≠ [] ∧
      ofW 1 s.delivered ++ pendingOf 1 s.channels ≠ ofW 1 s.accepted :=
  ⟨lossOps, (exec (init {}) lossOps).get (by decide), by decide, by simp, by decide, by decide⟩

/-- the witness violates exactly `SyncOnClose` -/
example : ¬ SyncTrace (init {}) lossOps := by decide

/-! Non-vacuity: two writers; writer 1's queue is replaced (`fits = false`); writer 2 is destroyed right after
  logging; the first consume has a stale `seen = 0` on writer 1's open channel; the second consume
  removes the sealed and the destroyed channel (seeing all of both); a rotation; a final consume. -/
def exOps : List Op :=
  [.createWriter 1 0 [], .createWriter 2 7 [], .addSource {},
   .log 1 1 10 [] true, .log 2 1 11 [] true,
   .consume [⟨false, 0, 0⟩, ⟨false, 1, 0⟩],
   .log 1 1 12 [] false,
   .log 2 1 13 [] true, .destroyWriter 2,
   .consume [⟨true, 0, 0⟩, ⟨true, 1, 0⟩, ⟨false, 0, 0⟩],
   .rotate,
   .consume [⟨false, 5, 0⟩]]

example : SyncTrace (init {}) exOps := by decide

example : (exec (init {}) exOps).map (fun s => s.delivered) =
    some [(2, .event 1 11 []), (1, .event 1 10 []), (2, .event 1 13 []), (1, .event 1 12 [])] := by decide

example : (exec (init {}) exOps).map (fun s => (s.lost, s.channels.map (·.cid), s.outputs.length)) =
    some ([], [2], 2) := by decide

/-- the stale consume really left an event queued (the run is not trivially "everything seen") -/
example : (exec (init {}) (exOps.take 6)).map (fun s => (pendingOf 1 s.channels, ofW 1 s.delivered)) =
    some ([.event 1 10 []], []) := by decide

end BinlogVerif.C02
