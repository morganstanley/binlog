import BinlogVerif.Lemmas.Dest
/-
  C05 — Serialize/deserialize round trip; truncation fails with an exception.

  `decode` is deserialisation by tag: two C++ types with the same tag decode the same bytes the
  same way, so "tag-compatible destination" is the same `Ty` here; that each concrete destination
  (list for vector, pair for 2-tuple, set for sorted vector, unique_ptr for optional, …) behaves
  like `decode` is the correspondence part of the check (generated programs, every truncation
  point under ASan).
-/
namespace BinlogVerif.C05
open BinlogVerif BinlogVerif.Mser

/-- **Round trip**, with arbitrary bytes following the value. -/
theorem c05_roundtrip (t : Ty) (v : Val) (rest : Bytes) (h : hasTy t v = true) :
    decode t (encode t v ++ rest) = .ok (v, rest) :=
  (decode_exact t v h).ok rest

/-- **Every truncation point fails with an exception** (`Range overflow`), never a value. -/
theorem c05_truncation (t : Ty) (v : Val) (h : hasTy t v = true) (n : Nat)
    (hn : n < (encode t v).length) :
    decode t ((encode t v).take n) = .error .overflow :=
  (decode_exact t v h).short n hn

/-- **No over-read**: the decoder's result on `bytes ++ extra` never depends on `extra` beyond
    returning it: it consumed exactly the value's bytes. -/
theorem c05_no_overread (t : Ty) (v : Val) (extra₁ extra₂ : Bytes) (h : hasTy t v = true) :
    (decode t (encode t v ++ extra₁)).map (·.1) = (decode t (encode t v ++ extra₂)).map (·.1) := by
  rw [c05_roundtrip t v extra₁ h, c05_roundtrip t v extra₂ h]
  rfl

def exTy : Ty := .tup [.seq (.tup [.arith 105, .arith 121]), .var [.null, .seq (.arith 99)]]
def exVal : Val := .tup [.seq [.tup [.num 7, .num 1]], .alt 1 (.seq [.num 104, .num 105])]
theorem exTyped : hasTy exTy exVal = true := by
  simp [exTy, exVal, hasTy, hasTyList, hasTyAll, hasTyNth, Visit.arithSize]
theorem exLen : (encode exTy exVal).length = 16 := by
  simp [exTy, exVal, encode, encodeList, encodeAll, encodeNth, Visit.arithSize]
example : decode exTy ((encode exTy exVal).take 15) = .error .overflow :=
  c05_truncation exTy exVal exTyped 15 (by rw [exLen]; decide)

/- Deserialisation INTO a destination that may be of fixed size at some sequence nodes (`Dst`, `Mser/Dest.lean`). -/

/-- a value that fits the destination round-trips, whatever follows it -/
theorem c05_into_roundtrip (d : Dst) (v : Val) (rest : Bytes) (h : hasTy d.ty v = true)
    (hf : fits d v = true) :
    decodeInto d (encode d.ty v ++ rest) = .ok (v, rest) :=
  (decodeInto_checked d _).eq_ok (c05_roundtrip d.ty v rest h) hf

/-- **a fixed-size destination that does not match the encoded size fails with the size-mismatch
    exception**, whatever follows the value (in particular it does not go on to read the following
    bytes as elements) -/
theorem c05_into_mismatch (d : Dst) (v : Val) (rest : Bytes) (h : hasTy d.ty v = true)
    (hf : fits d v = false) :
    decodeInto d (encode d.ty v ++ rest) = .error .sizeMismatch :=
  (decodeInto_checked d _).eq_mismatch (c05_roundtrip d.ty v rest h) hf

/-! Non-vacuity: an `std::array<std::string,3>` followed by an int, fed two strings -/
def exDst : Dst := .tup [.seq (some 3) (.seq none (.arith 99)), .arith 105]
def exTwo : Val := .tup [.seq [.seq [.num 104, .num 105], .seq [.num 33]], .num 7]
def exThree : Val := .tup [.seq [.seq [.num 104, .num 105], .seq [.num 33], .seq []], .num 7]
theorem exTwoTyped : hasTy exDst.ty exTwo = true := by
  simp [exDst, exTwo, Dst.ty, Dst.tys, hasTy, hasTyList, hasTyAll, Visit.arithSize]
theorem exTwoNoFit : fits exDst exTwo = false := by
  simp [exDst, exTwo, fits, fitsList, fitsAll]
example (rest : Bytes) : decodeInto exDst (encode exDst.ty exTwo ++ rest) = .error .sizeMismatch :=
  c05_into_mismatch exDst exTwo rest exTwoTyped exTwoNoFit
/-- the same by evaluation, with nothing following: a decoder that skipped the check would take
    the int `7` that follows the two strings for the length of a third string -/
example : decodeInto exDst (encode exDst.ty exTwo) = .error .sizeMismatch := by
  simp [exDst, exTwo, Dst.ty, Dst.tys, encode, encodeList, decodeInto_tup, decodeIntoList_cons,
    decodeInto_seq, readU_le_append, sizeOk, seq2, mapOk]
example (rest : Bytes) : decodeInto exDst (encode exDst.ty exThree ++ rest) = .ok (exThree, rest) :=
  c05_into_roundtrip exDst exThree rest
    (by simp [exDst, exThree, Dst.ty, Dst.tys, hasTy, hasTyList, hasTyAll, Visit.arithSize])
    (by simp [exDst, exThree, fits, fitsList, fitsAll])

/-- without fixed-size nodes `decodeInto` is `decode` (so C05's other theorems apply to it) -/
theorem c05_into_eq_decode (d : Dst) (hnf : noFixed d = true) (r : Bytes) :
    decodeInto d r = decode d.ty r :=
  decodeInto_eq_decode d hnf r

/-- every truncation point of the encoding fails with an exception (overflow or size mismatch),
    never a value -/
theorem c05_into_truncation (d : Dst) (v : Val) (h : hasTy d.ty v = true) (n : Nat)
    (hn : n < (encode d.ty v).length) :
    ∃ e, decodeInto d ((encode d.ty v).take n) = .error e ∧ (e = .overflow ∨ e = .sizeMismatch) :=
  (decodeInto_checked d _).truncErr (c05_truncation d.ty v h n hn)

end BinlogVerif.C05
