import BinlogVerif.Lemmas.ImageSession
import BinlogVerif.Props.C02
import BinlogVerif.Lemmas.ImageJunk
import BinlogVerif.Lemmas.E2ESession
/-
  C08 — Crash recovery.

  "From a memory image of the process taken at any instant, the recovery tool produces a well-formed
  log which, together with what had already been written to the output, contains every event whose
  add/log call had completed, each printable (its event source and a clock sync precede it in the
  recovered log).  The recovered log contains no event that was never committed or only partially
  written, and events recovered from one queue keep their order."

  Models.  The tool: `Recovery.recover` (Reader/Recovery.lean), the executable model of
  bin/brecovery.cpp on arbitrary bytes.  The image: Conc/Image.lean — `(filler, block)` pairs in
  memory order plus trailing filler (`Image.flat`); a block (`Image.Piece`) is a metadata block that
  carries the magic (`metaOn`), a queue (`chan`, with or without magic), or any block whose magic is
  zero (`off`).  `MetaState` enumerates what a `RecoverableVectorOutputStream` looks like at ANY
  instant (append in flight, growth in flight, after the two fixes recorded for C08); `ChanImage.Ok`
  is what C01 + C04 give for a queue at any instant.  The session: Conc/Session.lean (L1), whose
  states are the instants between linearisation points: `addEventSource`/`setClockSync` linearise at
  the store to the size field of the stream, `log` at the store to the queue's write index,
  `consume` at the write to the output.  An image taken while such a call is in flight shows the
  state before its linearisation point (metadata: `MetaState.inserted`) or, for a consume that has
  written but not yet released, the state after it with the released-late events still in the
  queue (`pre` of `Image.Item.chan`).

  HYPOTHESES that had to be added (each is stated where it is used):
   H1 `ImageOk` / `ImageOkF` — no magic number starts anywhere in the image except at the start of a
      block that carries one.  It is needed for (i) fillers, (ii) blocks whose magic is zero (their
      eight zero bytes are harmless, the rest of such a block is ordinary log data), (iii) the
      bytes behind the size field of a metadata block (`extra`): the tool continues scanning right
      behind the `size` bytes it consumed, i.e. INSIDE the unused capacity, where the bytes of an
      entry being inserted live.  Finest form `NoMagicIn` (no position starts a magic number, also
      not straddling into what follows); simple form `FillerOk` (no byte 0xBC).  TRUSTED BASE: the
      model cannot exclude that process memory or logged data contains a magic number followed by a
      plausible header; if it does, the tool collects a spurious buffer (C20 still guarantees that
      it consists of whole entries).  A queue's buffer and the counted part of a metadata buffer need
      NO such hypothesis: the tool jumps over them.
      WEAKEST FORM (theorems `…_inert`, hypothesis `ImageOkI`): real images DO contain stale copies of
      the magic numbers (a local variable in a dead stack frame, …) followed by garbage; the tool
      copes because it rejects the candidate and resumes behind the 8 magic bytes.  `Inert f rest`:
      at every position of `f` either no magic number starts or the candidate behind it is rejected
      (`readMetadata … = none` / `readData … = .ok none`).  All theorems hold under `ImageOkI`; the
      `ImageOk` versions are corollaries.  All but the exact scan result (C08.1) are proved from
      `c08_recovered_output_junk`, i.e. through the level with accepted empty junk (`ImageOkE`), under which C08.2 and C08.3 are also stated.  No "no straddling"
      side condition is needed: a rejected magic number cannot run into the magic number of a
      following block (`scanAll_magic_tail`).
   H2 64-bit fields: session id, metadata size, queue capacity `< 2^64`; payloads `< 2^32` (`PayloadOk`).
   H3 `ChanImage.Ok` — C01 + C04 for the queue indices/buffer in the image.
   H4 theorems 2 (explicit form) and 4 are for one session id (`std::sort` on buffers of one session
      is a stable partition by type; with > 16 buffers `std::sort` is not stable — the model's
      `mergeSort` is, see Recovery.lean).
      Theorems 5 and 6 lift this for the explicit form: with any number of live sessions the output is one
      segment per session in increasing session order (`c08_sessions_sorted`), and — the event source ids
      of different sessions overlap, each counts from 1 — every segment reads as it reads alone
      (`c08_two_sessions`, `Image.expectedItems_after`).
   H5 theorem 4: `Represents` — at least one block of each metadata stream carries the magic
      (true in every `MetaState`: `represents_of_states`), every channel that holds entries has its
      queue (with magic) in the image, queues hold `pre ++ entries` with `pre` accepted earlier.
-/
namespace BinlogVerif.C08
open BinlogVerif BinlogVerif.Recovery BinlogVerif.Image BinlogVerif.Sess BinlogVerif.E2E

/-- **C08.1 (weakest hypothesis: junk magic numbers allowed).**  On an image made of fillers and
    blocks in which the tool accepts no block at any position outside the blocks that carry a magic
    (stale magic numbers followed by a rejected candidate may occur anywhere in fillers, unused
    capacity and blocks without magic), the scan returns exactly, in image order, one buffer per
    block that carries a magic.  In particular no block is skipped when the scan resumes 8 bytes
    behind a rejected magic number. -/
theorem c08_scan_blocks_inert (img : List (Bytes × Piece)) (t : Bytes) (h : ImageOkI img t)
    (fuel : Nat) (hf : (flat img t).length < fuel) :
    scan fuel (flat img t) = .ok (img.filterMap (·.2.recovered)) := by
  rw [scan_eq_scanAll fuel _ hf]
  exact scanAll_image_inert img t h

/-- **C08.1 (finest hypothesis).**  On an image made of fillers and blocks, with no magic number
    anywhere but at the start of the blocks that carry one, the scan (with any fuel exceeding the
    image length — `recover` uses length + 1) returns exactly, in image order, one buffer per block
    that carries a magic: `⟨metadata, session, frames committed⟩` for a metadata block,
    `⟨data, session, frames pending⟩` for a queue (`Image.expected`, `Piece.recovered`). -/
theorem c08_scan_blocks (img : List (Bytes × Piece)) (t : Bytes) (h : ImageOk img t)
    (fuel : Nat) (hf : (flat img t).length < fuel) :
    scan fuel (flat img t) = .ok (img.filterMap (·.2.recovered)) :=
  c08_scan_blocks_inert img t (imageOkI_of_imageOk h) fuel hf

/-- **C08.1 (simple hypothesis).**  The same when fillers, the bytes behind the size field of
    metadata blocks, and blocks without magic do not contain the byte 0xBC. -/
theorem c08_scan_blocks_filler (img : List (Bytes × Piece)) (t : Bytes) (h : ImageOkF img t)
    (fuel : Nat) (hf : (flat img t).length < fuel) :
    scan fuel (flat img t) = .ok (img.filterMap (·.2.recovered)) :=
  c08_scan_blocks img t (imageOk_of_okF h) fuel hf

/-- what the blocks of a metadata stream contribute, in every state: one buffer with the committed
    entries per block that carries the magic — BOTH blocks while growing with both magics set -/
theorem c08_meta_state_buffers (st : MetaState) (sess : Nat) :
    (st.pieces sess).filterMap Piece.recovered
      = List.replicate st.live ⟨.metadata, sess, frames st.committed⟩ := by
  cases st <;> rfl

/-- the blocks of a stream, spelled out -/
theorem c08_meta_state_blocks (st : MetaState) (sess : Nat) :
    st.blocks sess = match st with
      | .stable es slack => [metaBlock true sess (frames es).length (frames es ++ slack)]
      | .inserted es extra => [metaBlock true sess (frames es).length (frames es ++ extra)]
      | .growingNoMagic es slackOld n c =>
        [metaBlock true sess (frames es).length (frames es ++ slackOld), metaBlock false sess n c]
      | .growingBoth es a b =>
        [metaBlock true sess (frames es).length (frames es ++ a), metaBlock true sess (frames es).length (frames es ++ b)]
      | .growingOldCleared es a b =>
        [metaBlock false sess (frames es).length (frames es ++ a), metaBlock true sess (frames es).length (frames es ++ b)] := by
  cases st <;> rfl

/-- the pieces of a stream satisfy the side conditions of C08.1 when the stream is `Ok`, the session
    id is 64-bit, and the looked-into parts (unused capacity, blocks without magic) have no 0xBC -/
theorem c08_meta_state_ok (st : MetaState) (sess : Nat) (hst : st.Ok) (hs : sess < 2 ^ 64)
    (hfill : ∀ p ∈ st.pieces sess, match p with
      | .metaOn _ _ extra => FillerOk extra
      | .off bs => FillerOk bs
      | .chan _ _ => True) :
    ∀ p ∈ st.pieces sess, p.OkF := by
  intro p hp
  have hf := hfill p hp
  cases st <;> simp only [MetaState.pieces, List.mem_cons, List.not_mem_nil, or_false] at hp
  all_goals (first
    | (subst hp; exact ⟨hs, hst.2, hst.1, hf⟩)
    | (rcases hp with rfl | rfl <;> first | exact ⟨hs, hst.2, hst.1, hf⟩ | exact hf))

/-- **C08.2 with accepted empty junk.**  Real images also contain junk magic numbers behind which the
    tool ACCEPTS a block with an EMPTY buffer (a stale metadata magic number followed by a pointer
    and eight zero bytes: size 0).  Under `ImageOkE` (`InertE`: such junk lies inside fillers, unused
    capacity or blocks without magic) the scan returns the expected buffers interleaved with empty
    ones — which carry arbitrary session ids and sit anywhere in the sorted list — and the bytes
    written are exactly those of C08.2: the stable sort commutes with dropping empty buffers
    (`mergeSort_filter`). -/
theorem c08_recovered_output_junk (img : List (Bytes × Piece)) (t : Bytes) (h : ImageOkE img t) :
    ∃ bufs, Recovery.scan ((flat img t).length + 1) (flat img t) = .ok bufs ∧
      bufs.filter (fun b => !b.buffer.isEmpty) = (expected img).filter (fun b => !b.buffer.isEmpty) ∧
      recover (flat img t) = .ok (((expected img).mergeSort bufLe).map (·.buffer)).flatten := by
  obtain ⟨out, hscan, hfil⟩ := scanNE_eq_ok.mp (scanNE_image img t h)
  refine ⟨out, hscan, hfil, ?_⟩
  unfold recover
  rw [show scan ((flat img t).length + 1) (flat img t) = .ok out from hscan]
  exact congrArg Except.ok (sorted_output_congr out (expected img) hfil)

/-- **C08.2 (any sessions, junk magic numbers allowed).**  The tool does not fail and writes the
    expected buffers, sorted by (session, type), concatenated. -/
theorem c08_recovered_sorted_inert (img : List (Bytes × Piece)) (t : Bytes) (h : ImageOkI img t) :
    recover (flat img t) = .ok (((expected img).mergeSort bufLe).map (·.buffer)).flatten :=
  let ⟨_, _, _, hrec⟩ := c08_recovered_output_junk img t (imageOkE_of_imageOkI h)
  hrec

/-- **C08.2 (any sessions)**, hypothesis `ImageOk` -/
theorem c08_recovered_sorted (img : List (Bytes × Piece)) (t : Bytes) (h : ImageOk img t) :
    recover (flat img t) = .ok (((expected img).mergeSort bufLe).map (·.buffer)).flatten :=
  c08_recovered_sorted_inert img t (imageOkI_of_imageOk h)

/-- **C08.2 (one session, junk magic numbers allowed).**  The tool writes: the committed entries of
    every metadata block that carries the magic (blocks in image order), then the
    committed-but-unreleased entries of every queue that carries the magic (queues in image order)
    — as one well-formed stream of entries. -/
theorem c08_recovered_content_inert (img : List (Bytes × Piece)) (t : Bytes) (h : ImageOkI img t)
    (sess : Nat) (hone : ∀ b ∈ expected img, b.session = sess) :
    recover (flat img t) = .ok (frames (metaPayloads img ++ chanPayloads img)) := by
  rw [c08_recovered_sorted_inert img t h, one_session_output img sess hone]

/-- **C08.2 (one session)**, hypothesis `ImageOk` -/
theorem c08_recovered_content (img : List (Bytes × Piece)) (t : Bytes) (h : ImageOk img t)
    (sess : Nat) (hone : ∀ b ∈ expected img, b.session = sess) :
    recover (flat img t) = .ok (frames (metaPayloads img ++ chanPayloads img)) :=
  c08_recovered_content_inert img t (imageOkI_of_imageOk h) sess hone

/-- C08.3 in terms of payloads, also with accepted empty junk: the output frames payloads of legal
    size that the image holds -/
theorem no_uncommitted_frames (img : List (Bytes × Piece)) (t : Bytes) (h : ImageOkE img t) (out : Bytes)
    (hout : recover (flat img t) = .ok out) :
    ∃ ps, out = frames ps ∧ ∀ p ∈ ps, PayloadOk p ∧ (p ∈ metaPayloads img ∨ p ∈ chanPayloads img) := by
  obtain ⟨_, _, _, hrec⟩ := c08_recovered_output_junk img t h
  rw [hrec] at hout
  injection hout with hout
  rw [← hout]
  apply C20.exists_frames_flatten
  intro b hb
  obtain ⟨r, hr, rfl⟩ := List.mem_map.mp hb
  obtain ⟨ps, e, ok, m⟩ := expected_payloads_junk img t h r (List.mem_mergeSort.mp hr)
  exact ⟨ps, e, fun p hp => ⟨ok p hp, m p hp⟩⟩

/-- consequently C08.3 also holds with accepted empty junk -/
theorem c08_no_uncommitted_junk (img : List (Bytes × Piece)) (t : Bytes) (h : ImageOkE img t) (out : Bytes)
    (hout : recover (flat img t) = .ok out) :
    ∃ ps, out = frames ps ∧ ∀ p ∈ ps, p ∈ metaPayloads img ∨ p ∈ chanPayloads img :=
  let ⟨ps, e, m⟩ := no_uncommitted_frames img t h out hout
  ⟨ps, e, fun p hp => (m p hp).2⟩

/-- **C08.3.**  Whatever the sessions: the output is a whole number of entries (`clean`), and every
    entry in it is an entry counted by the size field of a metadata block that carries the magic,
    or a committed, unreleased entry of a queue that carries the magic.  In particular the bytes of
    an entry being inserted (`MetaState.inserted … extra`), a block under construction, and the
    part of a queue buffer outside `[R, W)` contribute nothing. -/
theorem c08_no_uncommitted_inert (img : List (Bytes × Piece)) (t : Bytes) (h : ImageOkI img t) (out : Bytes)
    (hout : recover (flat img t) = .ok out) :
    (splitEntries out).2.2 = .clean ∧
    ∀ p ∈ (splitEntries out).1, p ∈ metaPayloads img ∨ p ∈ chanPayloads img := by
  obtain ⟨ps, rfl, m⟩ := no_uncommitted_frames img t (imageOkE_of_imageOkI h) out hout
  rw [C12.splitEntries_frames ps (fun p hp => (m p hp).1)]
  exact ⟨rfl, fun p hp => (m p hp).2⟩

/-- **C08.3**, hypothesis `ImageOk` -/
theorem c08_no_uncommitted (img : List (Bytes × Piece)) (t : Bytes) (h : ImageOk img t) (out : Bytes)
    (hout : recover (flat img t) = .ok out) :
    (splitEntries out).2.2 = .clean ∧
    ∀ p ∈ (splitEntries out).1, p ∈ metaPayloads img ∨ p ∈ chanPayloads img :=
  c08_no_uncommitted_inert img t (imageOkI_of_imageOk h) out hout

/-- C08.3 for one session, explicit: the entries of the output are exactly these, in this order -/
theorem c08_recovered_entries_inert (img : List (Bytes × Piece)) (t : Bytes) (h : ImageOkI img t)
    (sess : Nat) (hone : ∀ b ∈ expected img, b.session = sess) :
    ∃ out, recover (flat img t) = .ok out ∧
      splitEntries out = (metaPayloads img ++ chanPayloads img, out.length, .clean) := by
  refine ⟨_, c08_recovered_content_inert img t h sess hone, C12.splitEntries_frames _ fun p hp => ?_⟩
  exact payloads_ok img (sound_of_imageOkE (imageOkE_of_imageOkI h)) p (List.mem_append.mp hp)

theorem c08_recovered_entries (img : List (Bytes × Piece)) (t : Bytes) (h : ImageOk img t)
    (sess : Nat) (hone : ∀ b ∈ expected img, b.session = sess) :
    ∃ out, recover (flat img t) = .ok out ∧
      splitEntries out = (metaPayloads img ++ chanPayloads img, out.length, .clean) :=
  c08_recovered_entries_inert img t (imageOkI_of_imageOk h) sess hone

/-- C08.4 (b) and (a) for a reachable state, whatever the bytes of the image -/
theorem printable_and_complete (cs : ClockSync) (ops : List Op) (s : Session)
    (hok : SyncTrace (init cs) ops) (hrun : exec (init cs) ops = some s)
    (items : List (Bytes × Image.Item)) (hrep : Represents s items) :
    SelfContained (recoveredLog s items) ∧
    ∀ w e, e ∈ ofW w s.accepted → e ∈ ofW w s.delivered ∨ e ∈ recoveredLog s items :=
  ⟨recoveredLog_selfContained s items (metaInv_exec cs ops s hok.traceOk hrun) (accValid_exec cs ops s hok.traceOk hrun) hrep,
    accepted_delivered_or_recovered s items hrep (C02.c02_exactly_once_in_order cs ops s hok hrun).1⟩

/-- **C08.4.**  Let `s` be a reachable state of the session model (any interleaving of operations,
    any stale reads of the consumer; `SyncTrace` as in C02), and let the image hold `s`
    (`Represents`; blocks in any order, any fillers, metadata streams in any `MetaState` — see
    `c08_complete_and_printable_states`).  Then the tool writes the serialisation of the entry list
    `recoveredLog s items`, which
     (b) is self-contained: every event in it is preceded by the event source with its id and by a
         clock sync — it is printable by `bread` (C09/C14);
     (c) contains, for every queue with the magic, its `pre ++ entries` as one contiguous run in
         queue order;
     (a) contains the unconsumed entries of every channel (contiguous, in order); hence, with C02,
         every event whose log call has completed is either already delivered to the output or in
         the recovered log. -/
theorem c08_complete_and_printable_inert (cs : ClockSync) (ops : List Op) (s : Session)
    (hok : SyncTrace (init cs) ops) (hrun : exec (init cs) ops = some s)
    (sess : Nat) (items : List (Bytes × Image.Item)) (t : Bytes)
    (himg : ImageOkI (toImage s sess items) t) (hrep : Represents s items) :
    recover (flat (toImage s sess items) t) = .ok (writeBytes (recoveredLog s items)) ∧
    SelfContained (recoveredLog s items) ∧
    (∀ x ∈ items, ∀ c pre ci, x.2 = Image.Item.chan c pre ci → ci.magicOn = true →
        (pre ++ c.entries) <:+: recoveredLog s items) ∧
    (∀ c ∈ s.channels, c.entries <:+: recoveredLog s items) ∧
    (∀ w e, e ∈ ofW w s.accepted → e ∈ ofW w s.delivered ∨ e ∈ recoveredLog s items) := by
  obtain ⟨hsc, hacc⟩ := printable_and_complete cs ops s hok hrun items hrep
  refine ⟨?_, hsc, chan_infix s items, entries_infix s items hrep, hacc⟩
  rw [c08_recovered_sorted_inert _ t himg, toImage_sorted_buffers s sess items hrep]

/-- **C08.4**, hypothesis `ImageOk` -/
theorem c08_complete_and_printable (cs : ClockSync) (ops : List Op) (s : Session)
    (hok : SyncTrace (init cs) ops) (hrun : exec (init cs) ops = some s)
    (sess : Nat) (items : List (Bytes × Image.Item)) (t : Bytes)
    (himg : ImageOk (toImage s sess items) t) (hrep : Represents s items) :
    recover (flat (toImage s sess items) t) = .ok (writeBytes (recoveredLog s items)) ∧
    SelfContained (recoveredLog s items) ∧
    (∀ x ∈ items, ∀ c pre ci, x.2 = Image.Item.chan c pre ci → ci.magicOn = true →
        (pre ++ c.entries) <:+: recoveredLog s items) ∧
    (∀ c ∈ s.channels, c.entries <:+: recoveredLog s items) ∧
    (∀ w e, e ∈ ofW w s.accepted → e ∈ ofW w s.delivered ∨ e ∈ recoveredLog s items) :=
  c08_complete_and_printable_inert cs ops s hok hrun sess items t (imageOkI_of_imageOk himg) hrep

/-- **C08.4 with the metadata streams as `MetaState`s.**  The clock-sync stream is in ANY state
    `csSt` and the event-source stream in ANY state `srcSt` whose committed entries are those of `s`;
    the image consists, in any order, of their blocks and of `others` (queues, blocks without
    magic).  Its blocks are exactly `csSt.blocks ++ srcSt.blocks ++ others` (first conjunct) and all
    conclusions of C08.4 hold. -/
theorem c08_complete_and_printable_states_inert (cs : ClockSync) (ops : List Op) (s : Session)
    (hok : SyncTrace (init cs) ops) (hrun : exec (init cs) ops = some s)
    (sess : Nat) (csSt srcSt : MetaState) (others : List Image.Item) (items : List (Bytes × Image.Item)) (t : Bytes)
    (hcs : csSt.committed = s.clockSyncs.map Entry.payload) (hsrc : srcSt.committed = s.sources.map Entry.payload)
    (hperm : (items.map (·.2)).Perm (csSt.items Image.Item.clockSyncs sess ++ srcSt.items Image.Item.sources sess ++ others))
    (hchan : ∀ c pre ci, Image.Item.chan c pre ci ∈ others → ci.magicOn = true →
      (c ∈ s.channels ∨ c.entries = []) ∧ ci.pending = (pre ++ c.entries).map Entry.payload ∧
      ∀ e ∈ pre, (c.owner, e) ∈ s.accepted)
    (hall : ∀ c ∈ s.channels, c.entries ≠ [] → ∃ pre ci, Image.Item.chan c pre ci ∈ others ∧ ci.magicOn = true)
    (himg : ImageOkI (toImage s sess items) t) :
    ((toImage s sess items).map (·.2.bytes)).Perm
      (csSt.blocks sess ++ srcSt.blocks sess ++ others.map (fun it => (it.piece s sess).bytes)) ∧
    recover (flat (toImage s sess items) t) = .ok (writeBytes (recoveredLog s items)) ∧
    SelfContained (recoveredLog s items) ∧
    (∀ c ∈ s.channels, c.entries <:+: recoveredLog s items) ∧
    (∀ w e, e ∈ ofW w s.accepted → e ∈ ofW w s.delivered ∨ e ∈ recoveredLog s items) := by
  have hrep := represents_of_states s sess csSt srcSt others items hperm hchan hall
  obtain ⟨h1, h2, _, h4, h5⟩ := c08_complete_and_printable_inert cs ops s hok hrun sess items t himg hrep
  exact ⟨blocks_of_states s sess csSt srcSt others items hperm hcs hsrc, h1, h2, h4, h5⟩

/-- the same with hypothesis `ImageOk` -/
theorem c08_complete_and_printable_states (cs : ClockSync) (ops : List Op) (s : Session)
    (hok : SyncTrace (init cs) ops) (hrun : exec (init cs) ops = some s)
    (sess : Nat) (csSt srcSt : MetaState) (others : List Image.Item) (items : List (Bytes × Image.Item)) (t : Bytes)
    (hcs : csSt.committed = s.clockSyncs.map Entry.payload) (hsrc : srcSt.committed = s.sources.map Entry.payload)
    (hperm : (items.map (·.2)).Perm (csSt.items Image.Item.clockSyncs sess ++ srcSt.items Image.Item.sources sess ++ others))
    (hchan : ∀ c pre ci, Image.Item.chan c pre ci ∈ others → ci.magicOn = true →
      (c ∈ s.channels ∨ c.entries = []) ∧ ci.pending = (pre ++ c.entries).map Entry.payload ∧
      ∀ e ∈ pre, (c.owner, e) ∈ s.accepted)
    (hall : ∀ c ∈ s.channels, c.entries ≠ [] → ∃ pre ci, Image.Item.chan c pre ci ∈ others ∧ ci.magicOn = true)
    (himg : ImageOk (toImage s sess items) t) :
    ((toImage s sess items).map (·.2.bytes)).Perm
      (csSt.blocks sess ++ srcSt.blocks sess ++ others.map (fun it => (it.piece s sess).bytes)) ∧
    recover (flat (toImage s sess items) t) = .ok (writeBytes (recoveredLog s items)) ∧
    SelfContained (recoveredLog s items) ∧
    (∀ c ∈ s.channels, c.entries <:+: recoveredLog s items) ∧
    (∀ w e, e ∈ ofW w s.accepted → e ∈ ofW w s.delivered ∨ e ∈ recoveredLog s items) :=
  c08_complete_and_printable_states_inert cs ops s hok hrun sess csSt srcSt others items t hcs hsrc hperm hchan hall
    (imageOkI_of_imageOk himg)

/-- what the tool writes for the buffers whose session id satisfies `q` -/
def sessionSeg (img : List (Bytes × Piece)) (q : Nat → Bool) : Bytes :=
  ((((expected img).filter (fun b => q b.session)).mergeSort bufLe).map (·.buffer)).flatten

/-- **C08.5 (any number of sessions).**  For every session id `k` the output is: what the tool
    writes for the sessions below `k`, then the buffers of session `k` — its metadata buffers in
    image order, then its data buffers in image order, exactly the segment C08.2 describes for an
    image of that session alone —, then what it writes for the sessions above `k`.  No buffer of
    another session lies between the metadata and the data of a session. -/
theorem c08_sessions_sorted (img : List (Bytes × Piece)) (t : Bytes) (h : ImageOkI img t) (k : Nat) :
    recover (flat img t) = .ok (sessionSeg img (fun s => decide (s < k)) ++
      ((((expected img).filter (fun b => b.session == k && isMeta b)).map (·.buffer)).flatten ++
       (((expected img).filter (fun b => b.session == k && isData b)).map (·.buffer)).flatten) ++
      sessionSeg img (fun s => decide (k < s))) := by
  rw [c08_recovered_sorted_inert img t h, mergeSort_sessions (expected img) k]
  simp only [sessionSeg, List.map_append, List.flatten_append, List.append_assoc]

/-- **C08.6 (two live sessions).**  The image holds, interleaved in any order and among any inert
    junk, the blocks of two sessions (`s1` at the lower address): the blocks with a magic number of
    session `sess_i`, in image order, are those of an image of `s_i` (hypotheses `h1`, `h2`; each
    `s_i` reachable, each represented as in C08.4).  Then
     (a) the tool writes the recovered log of `s1` followed by the recovered log of `s2`;
     (b) both logs are self-contained, and reading the concatenation yields the items of the first
         log followed by the items the second log yields WHEN READ ALONE: every event of `s2` is
         interpreted with the event source `s2` registered under its id and with `s2`'s clock sync,
         although `s1` registered other sources under the same ids;
     (c) no item is an `invalid source` error;
     (d) every accepted event of either session is delivered or in the recovered log. -/
theorem c08_two_sessions (cs1 cs2 : ClockSync) (ops1 ops2 : List Op) (s1 s2 : Session)
    (hok1 : SyncTrace (init cs1) ops1) (hrun1 : exec (init cs1) ops1 = some s1)
    (hok2 : SyncTrace (init cs2) ops2) (hrun2 : exec (init cs2) ops2 = some s2)
    (sess1 sess2 : Nat) (hlt : sess1 < sess2)
    (items1 items2 : List (Bytes × Image.Item)) (hrep1 : Represents s1 items1) (hrep2 : Represents s2 items2)
    (img : List (Bytes × Piece)) (t : Bytes) (himg : ImageOkI img t)
    (h1 : (expected img).filter (fun b => b.session == sess1) = expected (toImage s1 sess1 items1))
    (h2 : (expected img).filter (fun b => b.session == sess2) = expected (toImage s2 sess2 items2))
    (hall : ∀ b ∈ expected img, b.session = sess1 ∨ b.session = sess2) :
    recover (flat img t) = .ok (writeBytes (recoveredLog s1 items1 ++ recoveredLog s2 items2)) ∧
    SelfContained (recoveredLog s1 items1) ∧ SelfContained (recoveredLog s2 items2) ∧
    expectedItems [] {} {} (recoveredLog s1 items1 ++ recoveredLog s2 items2) =
      expectedItems [] {} {} (recoveredLog s1 items1) ++
      expectedItems [] (wpAfter {} (recoveredLog s1 items1)) {} (recoveredLog s2 items2) ∧
    (∀ w e, e ∈ ofW w s1.accepted → e ∈ ofW w s1.delivered ∨ e ∈ recoveredLog s1 items1) ∧
    (∀ w e, e ∈ ofW w s2.accepted → e ∈ ofW w s2.delivered ∨ e ∈ recoveredLog s2 items2) := by
  obtain ⟨sc1, acc1⟩ := printable_and_complete cs1 ops1 s1 hok1 hrun1 items1 hrep1
  obtain ⟨sc2, acc2⟩ := printable_and_complete cs2 ops2 s2 hok2 hrun2 items2 hrep2
  refine ⟨?_, sc1, sc2, expectedItems_after _ _ sc2 [] {} {}, acc1, acc2⟩
  · rw [c08_recovered_sorted_inert img t himg]
    congr 1
    rw [mergeSort_partition (fun b => decide (b.session < sess2)) (bufLe_lower sess2) (expected img)]
    have e1 : (expected img).filter (fun b => decide (b.session < sess2)) = expected (toImage s1 sess1 items1) := by
      rw [← h1]
      exact List.filter_congr fun b hb => by rcases hall b hb with h | h <;> rw [h, Bool.eq_iff_iff] <;> simp <;> omega
    have e2 : (expected img).filter (fun b => !decide (b.session < sess2)) = expected (toImage s2 sess2 items2) := by
      rw [← h2]
      exact List.filter_congr fun b hb => by rcases hall b hb with h | h <;> rw [h, Bool.eq_iff_iff] <;> simp <;> omega
    rw [e1, e2, List.map_append, List.flatten_append, toImage_sorted_buffers s1 sess1 items1 hrep1,
      toImage_sorted_buffers s2 sess2 items2 hrep2]
    simp [writeBytes, frames_append]

/-- a wrapped queue: `[R, E) = frame [41]`, `[0, W) = frame [42]` -/
def exChan : ChanImage :=
  { magicOn := true, w := 5, e := 11, r := 6, cap := 12, ptr := 0xBC00,
    buf := [1, 0, 0, 0, 42] ++ [0] ++ [1, 0, 0, 0, 41] ++ [0], pending := [[41], [42]] }

theorem exChan_ok : exChan.Ok :=
  ⟨by decide, by decide, by decide, by decide, by rfl, (by decide : ∀ p ∈ exChan.pending, p.length < 2 ^ 32)⟩

/-- filler, a metadata stream growing with both magics set (two blocks, the first with unused
    capacity), a wrapped queue between them, a block without magic, trailing filler -/
def exImg : List (Bytes × Piece) :=
  [([1, 2, 3], .metaOn 77 [[9]] [0, 0]),
   ([5], .chan 77 exChan),
   ([], .off (metaBlock false 77 5 (frame [9]))),
   ([4, 4], .metaOn 77 [[9]] [])]

/-- the two metadata blocks are the blocks of one stream in state `growingBoth` -/
example : (MetaState.growingBoth [[9]] [0, 0] []).pieces 77 = [.metaOn 77 [[9]] [0, 0], .metaOn 77 [[9]] []] := rfl

theorem exImg_ok : ImageOkF exImg [7, 7] := by
  refine ⟨?_, by decide⟩
  intro x hx
  simp only [exImg, List.mem_cons, List.not_mem_nil, or_false] at hx
  rcases hx with rfl | rfl | rfl | rfl
  · exact ⟨by decide, by decide, by decide, by simp [PayloadOk], by decide⟩
  · exact ⟨by decide, Piece.okF_iff.mpr ⟨fun _ => ⟨by decide, by decide, exChan_ok⟩, by decide⟩⟩
  · exact ⟨by decide, (by decide : FillerOk (metaBlock false 77 5 (frame [9])))⟩
  · exact ⟨by decide, by decide, by decide, by simp [PayloadOk], by decide⟩

/-- the theorem applies … -/
example : recover (flat exImg [7, 7]) = .ok (frames [[9], [9], [41], [42]]) :=
  c08_recovered_content exImg [7, 7] (imageOk_of_okF exImg_ok) 77 (by decide)

set_option maxRecDepth 100000 in
/-- … and agrees with running the model of the tool's scan on the bytes -/
example : (scan ((flat exImg [7, 7]).length + 1) (flat exImg [7, 7])).toOption.map (·.map (·.buffer))
    = some [frame [9], frame [41] ++ frame [42], frame [9]] := by decide

/-- **H1 is necessary.**  If the bytes behind the size field of a metadata block (here: an entry being
    inserted whose content is a magic number and a plausible header) are not free of magic numbers,
    the tool collects a buffer that was never committed. -/
def exBad : List (Bytes × Piece) :=
  [([], .metaOn 77 [[9]] (frame (metadataMagic ++ le 8 77 ++ le 8 5 ++ frame [66])))]

set_option maxRecDepth 100000 in
example : (scan ((flat exBad []).length + 1) (flat exBad [])).toOption.map (·.map (·.buffer))
    = some [frame [9], frame [66]] := by decide

example : [66] ∉ metaPayloads exBad ++ chanPayloads exBad := by decide

/-! One writer, one source, two events in a wrapped queue; the event-source
    stream has an append in flight (`inserted`: garbage-free extra bytes behind the size field). -/
def exOps : List Op := [.createWriter 1 0 [], .addSource {}, .log 1 1 10 [] true, .log 1 1 11 [] true]

def exS : Session := (exec (init {}) exOps).get (by decide)

theorem exS_run : exec (init {}) exOps = some exS := by simp [exS]

theorem exOps_ok : SyncTrace (init {}) exOps := by decide

def exC : Chan :=
  { cid := 0, owner := 1, wp := {}, entries := [.event 1 10 [], .event 1 11 []], closed := false, sealed := false }

theorem exS_channels : exS.channels = [exC] := by rfl

/-- the queue of the channel, wrapped: `[R, E)` holds the first event, `[0, W)` the second -/
def exCi : ChanImage :=
  { magicOn := true, w := 20, e := 44, r := 24, cap := 48, ptr := 0,
    buf := frame (eventPayload 1 11 []) ++ [0, 0, 0, 0] ++ frame (eventPayload 1 10 []) ++ [0, 0, 0, 0],
    pending := [eventPayload 1 10 [], eventPayload 1 11 []] }

theorem exCi_ok : exCi.Ok :=
  ⟨by decide, by decide, by decide, by decide, by rfl, (by decide : ∀ p ∈ exCi.pending, p.length < 2 ^ 32)⟩

def exItems : List (Bytes × Image.Item) :=
  [([1, 2, 3], .sources [0, 0]), ([], .clockSyncs []), ([5], .chan exC [] exCi)]

/-- hypotheses `hchan`, `hall` of `represents_of_states` -/
theorem exOthers_ok :
    (∀ c pre ci, Image.Item.chan c pre ci ∈ [Image.Item.chan exC [] exCi] → ci.magicOn = true →
      (c ∈ exS.channels ∨ c.entries = []) ∧ ci.pending = (pre ++ c.entries).map Entry.payload ∧
      ∀ e ∈ pre, (c.owner, e) ∈ exS.accepted) ∧
    ∀ c ∈ exS.channels, c.entries ≠ [] →
      ∃ pre ci, Image.Item.chan c pre ci ∈ [Image.Item.chan exC [] exCi] ∧ ci.magicOn = true := by
  refine ⟨fun c pre ci h hm => ?_, fun c hc _ => ?_⟩
  · simp only [List.mem_singleton] at h
    injection h with h1 h2 h3
    subst h1 h2 h3
    exact ⟨.inl (by rw [exS_channels]; simp), rfl, by simp⟩
  · rw [exS_channels, List.mem_singleton] at hc
    subst hc
    exact ⟨[], exCi, by simp, rfl⟩

theorem exItems_rep : Represents exS exItems :=
  represents_of_states exS 77 (.stable (exS.clockSyncs.map Entry.payload) []) (.inserted (exS.sources.map Entry.payload) [0, 0])
    [.chan exC [] exCi] exItems (List.Perm.swap _ _ _) exOthers_ok.1 exOthers_ok.2

theorem exItems_ok (sess : Nat) (hs : sess < 2 ^ 64) : ImageOkF (toImage exS sess exItems) [7] := by
  refine ⟨?_, by decide⟩
  intro x hx
  simp only [toImage, exItems, List.map_cons, List.map_nil, List.mem_cons, List.not_mem_nil, or_false] at hx
  rcases hx with rfl | rfl | rfl
  · exact ⟨(by decide : FillerOk [1, 2, 3]), hs, by decide,
      (by decide : ∀ p ∈ exS.sources.map Entry.payload, p.length < 2 ^ 32), (by decide : FillerOk [0, 0])⟩
  · exact ⟨(by decide : FillerOk []), hs, by decide,
      (by decide : ∀ p ∈ exS.clockSyncs.map Entry.payload, p.length < 2 ^ 32), (by decide : FillerOk [])⟩
  · exact ⟨(by decide : FillerOk [5]), Piece.okF_iff.mpr ⟨fun _ => ⟨hs, by decide, exCi_ok⟩, (by decide : FillerOk [])⟩⟩

/-- the recovered log: the source, the clock sync, the two events in queue order -/
example : recoveredLog exS exItems =
    [.source { id := 1 }, .clockSync {}, .event 1 10 [], .event 1 11 []] := by rfl

/-- C08.4 applies to the example -/
example : recover (flat (toImage exS 77 exItems) [7]) = .ok (writeBytes (recoveredLog exS exItems)) ∧
    SelfContained (recoveredLog exS exItems) :=
  let h := c08_complete_and_printable {} exOps exS exOps_ok exS_run 77 exItems [7]
    (imageOk_of_okF (exItems_ok 77 (by decide))) exItems_rep
  ⟨h.1, h.2.1⟩

/-- … and so does the `MetaState` form: clock-sync stream `stable`, event-source stream with an append
    in flight, blocks in another order than listed -/
example : SelfContained (recoveredLog exS exItems) :=
  (c08_complete_and_printable_states {} exOps exS exOps_ok exS_run 77
    (.stable (exS.clockSyncs.map Entry.payload) []) (.inserted (exS.sources.map Entry.payload) [0, 0])
    [.chan exC [] exCi] exItems [7] rfl rfl (List.Perm.swap _ _ _) exOthers_ok.1 exOthers_ok.2
    (imageOk_of_okF (exItems_ok 77 (by decide)))).2.2.1

/-- a stale metadata magic number followed by a pointer and a huge size field -/
def junkMeta : Bytes := metadataMagic ++ le 8 0x7FFD12345678 ++ le 8 0xFFFFFFFFFFFF
/-- a stale data magic number followed by a header with `W = 100 > capacity = 10` -/
def junkData : Bytes := dataMagic ++ le 8 5 ++ le 8 100 ++ le 8 0 ++ le 8 10 ++ le 8 0 ++ le 8 0
/-- a stale metadata magic number followed by a pointer and eight zero bytes: ACCEPTED, size 0 -/
def junkEmpty : Bytes := metadataMagic ++ le 8 0x7FFD12345678 ++ le 8 0

/-- junk inside fillers, a junk data magic in the unused capacity of the metadata block, a bare
    metadata magic number directly in front of the queue's magic number (the rejected candidate
    is the queue's own header; the scan resumes exactly at the queue's magic), and as trailing
    filler a magic number cut off by the end of the image -/
def exJunk : List (Bytes × Piece) :=
  [([1, 2] ++ junkMeta ++ [3], .metaOn 77 [[9]] (dataMagic ++ [0, 0])),
   (junkData ++ [4] ++ junkMeta ++ metadataMagic, .chan 77 exChan)]

set_option maxRecDepth 100000 in
theorem exJunk_ok : ImageOkI exJunk metadataMagic := by
  refine ⟨inert_of_inertB (by decide), ⟨by decide, by decide, by simp [PayloadOk], inert_of_inertB (by decide)⟩,
    inert_of_inertB (by decide), Piece.okI_iff.mpr ⟨fun _ => ⟨by decide, by decide, exChan_ok⟩, trivial⟩,
    inert_of_inertB (by decide)⟩

/-- the image does not satisfy the stronger hypothesis H1 -/
example : ¬ ImageOk exJunk metadataMagic :=
  -- a magic number starts at the third byte of the first filler
  fun h => h.1.2.2.1 (.inl (by decide))

example : recover (flat exJunk metadataMagic) = .ok (frames [[9], [41], [42]]) :=
  c08_recovered_content_inert exJunk _ exJunk_ok 77 (by decide)

set_option maxRecDepth 100000 in
/-- running the model of the tool's scan on the bytes: the junk candidates are rejected, no block is skipped -/
example : (scan ((flat exJunk metadataMagic).length + 1) (flat exJunk metadataMagic)).toOption.map (·.map (·.buffer))
    = some [frame [9], frame [41] ++ frame [42]] := by decide

/-- accepted empty junk in a filler -/
def exJunkE : List (Bytes × Piece) :=
  [([1] ++ junkEmpty ++ junkMeta ++ [3], .metaOn 77 [[9]] []), (junkEmpty, .chan 77 exChan)]

set_option maxRecDepth 100000 in
theorem exJunkE_ok : ImageOkE exJunkE [] := by
  refine ⟨inertE_of_inertEB (by decide), ⟨by decide, by decide, by simp [PayloadOk], trivial⟩,
    inertE_of_inertEB (by decide), Piece.okE_iff.mpr ⟨fun _ => ⟨by decide, by decide, exChan_ok⟩, trivial⟩, trivial⟩

set_option maxRecDepth 100000 in
/-- the scan collects two empty buffers with the junk session id … -/
example : (scan ((flat exJunkE []).length + 1) (flat exJunkE [])).toOption.map (·.map (fun b => (b.session, b.buffer)))
    = some [(0x7FFD12345678, []), (77, frame [9]), (0x7FFD12345678, []), (77, frame [41] ++ frame [42])] := by decide

/-- … and the output is that of the image without them -/
example : recover (flat exJunkE []) = .ok (((expected exJunkE).mergeSort bufLe).map (·.buffer)).flatten :=
  (c08_recovered_output_junk exJunkE [] exJunkE_ok).choose_spec.2.2

/-- two sessions in one image, the one at the higher address first -/
def exImg2 : List (Bytes × Piece) := toImage exS 99 exItems ++ toImage exS 77 exItems

theorem exImg2_ok : ImageOkI exImg2 [7] := by
  apply imageOkI_of_imageOk
  apply imageOk_of_okF
  refine ⟨fun x hx => ?_, by decide⟩
  rcases List.mem_append.mp hx with h | h
  · exact (exItems_ok 99 (by decide)).1 x h
  · exact (exItems_ok 77 (by decide)).1 x h

theorem exImg2_filter (k other : Nat) (hne : other ≠ k) (a b : List (Bytes × Piece))
    (ha : ∀ x ∈ expected a, x.session = other) (hb : ∀ x ∈ expected b, x.session = k) :
    (expected (a ++ b)).filter (fun x => x.session == k) = expected b ∧
    (expected (b ++ a)).filter (fun x => x.session == k) = expected b := by
  have fa : (expected a).filter (fun x => x.session == k) = [] :=
    List.filter_eq_nil_iff.mpr (fun x hx => by simp [ha x hx, hne])
  have fb : (expected b).filter (fun x => x.session == k) = expected b :=
    List.filter_eq_self.mpr (fun x hx => by simp [hb x hx])
  constructor <;> rw [expected_append, List.filter_append, fa, fb] <;> simp

/-- C08.6 applies: the tool writes session 77's log, then session 99's (which lies FIRST in memory),
    and both read as they read alone -/
example : recover (flat exImg2 [7]) = .ok (writeBytes (recoveredLog exS exItems ++ recoveredLog exS exItems)) ∧
    expectedItems [] {} {} (recoveredLog exS exItems ++ recoveredLog exS exItems) =
      expectedItems [] {} {} (recoveredLog exS exItems) ++
      expectedItems [] (wpAfter {} (recoveredLog exS exItems)) {} (recoveredLog exS exItems) :=
  have o77 := toImage_one_session exS 77 exItems
  have o99 := toImage_one_session exS 99 exItems
  let h := c08_two_sessions {} {} exOps exOps exS exS exOps_ok exS_run exOps_ok exS_run 77 99 (by decide)
    exItems exItems exItems_rep exItems_rep exImg2 [7] exImg2_ok
    (exImg2_filter 77 99 (by decide) _ _ o99 o77).1 (exImg2_filter 99 77 (by decide) _ _ o77 o99).2
    (by
      intro b hb
      rw [exImg2, expected_append] at hb
      exact (List.mem_append.mp hb).symm.imp (o77 b) (o99 b))
  ⟨h.1, h.2.2.2.1⟩

/-- the four recovered events are printed with a source and a clock sync: no error item -/
example : (expectedItems [] {} {} (recoveredLog exS exItems ++ recoveredLog exS exItems)).length = 4 ∧
    ∀ it ∈ expectedItems [] {} {} (recoveredLog exS exItems ++ recoveredLog exS exItems), it.isError = false := by
  decide

end BinlogVerif.C08
