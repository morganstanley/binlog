import BinlogVerif.Lemmas.Locks
import BinlogVerif.Lemmas.LocksDjit
/-
  C10 — "Using one session concurrently from any number of threads … never constitutes a data
  race" (C++11 happens-before).

  The code's argument is a LOCK / OWNERSHIP DISCIPLINE.  This file proves, once and generically,
  that the discipline implies data-race freedom in the operational happens-before model of
  `Conc/Locks.lean` (vector clocks; mutex acquire/release, thread fork/join), and gives a
  decidable checker for an access table (the table is extracted from the C++ sources by a
  separate tool).

  What is proved here is the implication  discipline ⇒ no race.  That the C++ code follows the
  table (each access of each method is an instance of a table row) is the extraction tool's
  obligation, stated below as the decidable hypothesis `Conforms`.
-/
namespace BinlogVerif.C10
open BinlogVerif BinlogVerif.Locks

/-- **C10 (generic part).**  For every well-formed trace (mutex semantics) and every assignment
    of disciplines `guarded m` / `ownerWrites t m` / `threadLocal t` to locations such that each
    access event satisfies the discipline of its location, no access races with an earlier one:
    every two conflicting accesses by different threads are ordered by happens-before. -/
theorem c10_lockset_race_free (disc : Nat → Disc) (tr : List Ev)
    (hwf : WellFormed tr) (hob : Obeys disc tr) : raceFree tr = true :=
  raceFreeFrom_of_obeys tr init (inv_init disc) hwf hob

/-- Same, with `WellFormed` and `Obeys` spelled out over prefixes with `holds`. -/
theorem c10_lockset_race_free_prefix (disc : Nat → Disc) (tr : List Ev)
    (hwf : ∀ pre e post, tr = pre ++ e :: post →
      match e with
      | .acq _ m => ∀ u, holds pre u m = false
      | .rel t m => holds pre t m = true
      | _ => True)
    (hob : ∀ pre e post, tr = pre ++ e :: post → obeysEv disc (holds pre) e = true) :
    raceFree tr = true :=
  c10_lockset_race_free disc tr ((wellFormed_iff_prefix tr).2 hwf) ((obeys_iff_prefix disc tr).2 hob)

/-- Same conclusion for the DJIT+ detector (a location remembers only its last write and, per
    thread, its last read): it reports no race either. -/
theorem c10_lockset_race_free_djit (disc : Nat → Disc) (tr : List Ev)
    (hwf : WellFormed tr) (hob : Obeys disc tr) : raceFreeDjit tr = true :=
  raceFreeDjit_of_raceFree tr (c10_lockset_race_free disc tr hwf hob)

/-- One row of the access table: `method` accesses the location named `loc`; it is a write or a
    read; it is made with the location's mutex held or not; it is only ever executed by the
    location's owner thread or by any thread.  (`method` is documentation only.) -/
structure Access where
  method : String
  loc : String
  write : Bool
  underLock : Bool
  byOwnerOnly : Bool
  deriving DecidableEq, Repr

/-- The rows of location `l`. -/
def rowsOf (table : List Access) (l : String) : List Access := table.filter (·.loc == l)

/-- All accesses under the lock. -/
def allLocked (rows : List Access) : Bool := rows.all (·.underLock)

/-- All writes under the lock and by the owner; every access made without the lock is a read by
    the owner. -/
def ownerWritesOk (rows : List Access) : Bool :=
  rows.all fun r => if r.write then r.underLock && r.byOwnerOnly else r.underLock || r.byOwnerOnly

/-- All accesses by the owner (thread-local). -/
def allOwner (rows : List Access) : Bool := rows.all (·.byOwnerOnly)

/-- All accesses by the owner and none under the lock (the literal "thread-local" pattern). -/
def allOwnerNoLock (rows : List Access) : Bool := rows.all fun r => r.byOwnerOnly && !r.underLock

/-- The table checker: every location of the table follows one of the three patterns. -/
def Disciplined (table : List Access) : Bool :=
  table.all fun r =>
    let rows := rowsOf table r.loc
    allLocked rows || ownerWritesOk rows || allOwner rows

/-- The literal variant (thread-local = by the owner and with no lock at all); it implies
    `Disciplined` (`disciplined_of_strict`). -/
def DisciplinedStrict (table : List Access) : Bool :=
  table.all fun r =>
    let rows := rowsOf table r.loc
    allLocked rows || ownerWritesOk rows || allOwnerNoLock rows

/-- How memory locations map to the table: the table name of location `x` (several locations may
    share a name: the same field of different writers), its owner thread, its mutex. -/
structure Layout where
  name : Nat → String
  owner : Nat → Nat
  lock : Nat → Nat

/-- **Instance of a table row**: an access (`w` = write) by thread `t` to location `x` is an
    instance of row `r` iff `r` is a row of `x`'s name with the same read/write kind, the lock
    of `x` is held by `t` if the row says `underLock`, and `t` is the owner of `x` if the row
    says `byOwnerOnly`.  (Only these implications are required; the converses — lock NOT held if
    not `underLock`, NOT the owner if not `byOwnerOnly` — would be a stronger hypothesis.) -/
def isInstance (L : Layout) (held : Nat → Nat → Bool) (r : Access) (w : Bool) (t x : Nat) : Bool :=
  r.loc == L.name x && r.write == w && (!r.underLock || held t (L.lock x)) &&
    (!r.byOwnerOnly || t == L.owner x)

/-- The access event is an instance of some row of the table. -/
def conformsEv (L : Layout) (table : List Access) (held : Nat → Nat → Bool) : Ev → Bool
  | .rd t x => table.any fun r => isInstance L held r false t x
  | .wr t x => table.any fun r => isInstance L held r true t x
  | _ => true

def conformsFrom (L : Layout) (table : List Access) (s : St) : List Ev → Bool
  | [] => true
  | e :: tr => conformsEv L table s.held e && conformsFrom L table (step s e) tr

/-- Every access event of the trace is an instance of a table row ("holds" evaluated on the
    prefix before the event). -/
def Conforms (L : Layout) (table : List Access) (tr : List Ev) : Prop :=
  conformsFrom L table init tr = true

instance (L : Layout) (table : List Access) (tr : List Ev) : Decidable (Conforms L table tr) := by
  unfold Conforms; infer_instance

/-- The discipline assignment derived from the table. -/
def discOf (L : Layout) (table : List Access) (x : Nat) : Disc :=
  let rows := rowsOf table (L.name x)
  if allLocked rows then .guarded (L.lock x)
  else if ownerWritesOk rows then .ownerWrites (L.owner x) (L.lock x)
  else .threadLocal (L.owner x)

section
variable {L : Layout} {table : List Access} {held : Nat → Nat → Bool} {r : Access} {w : Bool} {t x : Nat}

theorem isInstance_iff :
    isInstance L held r w t x = true ↔ r.loc = L.name x ∧ r.write = w ∧
      (r.underLock = true → held t (L.lock x) = true) ∧ (r.byOwnerOnly = true → t = L.owner x) := by
  have imp : ∀ a b : Bool, (!a || b) = true ↔ (a = true → b = true) := by decide
  simp only [isInstance, Bool.and_eq_true, imp, beq_iff_eq, and_assoc]

/-- `discOf` picks the first pattern that all rows of the location's name follow, and the
    instantiated row is one of them. -/
theorem discOf_ok (hd : Disciplined table = true) (hr : r ∈ table)
    (hi : isInstance L held r w t x = true) : (discOf L table x).Ok (held t · = true) w t := by
  obtain ⟨hloc, rfl, hlk, hown⟩ := isInstance_iff.1 hi
  have hrow : r ∈ rowsOf table (L.name x) := List.mem_filter.2 ⟨hr, beq_iff_eq.2 hloc⟩
  have hdr := List.all_eq_true.1 hd r hr
  simp only [hloc, Bool.or_eq_true] at hdr
  unfold discOf
  generalize rowsOf table (L.name x) = rows at *
  by_cases h1 : allLocked rows = true
  · rw [if_pos h1]; exact hlk (List.all_eq_true.1 h1 r hrow)
  rw [if_neg h1]
  by_cases h2 : ownerWritesOk rows = true
  · rw [if_pos h2]
    have := List.all_eq_true.1 h2 r hrow
    cases hw : r.write <;> simp only [hw, if_true, if_false, Bool.false_eq_true, Bool.or_eq_true,
      Bool.and_eq_true] at this
    · exact ⟨this.symm.imp hown hlk, nofun⟩
    · exact ⟨.inl (hown this.2), fun _ => ⟨hown this.2, hlk this.1⟩⟩
  rw [if_neg h2]
  exact hown (List.all_eq_true.1 (hdr.resolve_left (not_or.2 ⟨h1, h2⟩)) r hrow)

theorem conforms_obeysEv {e : Ev} (hd : Disciplined table = true)
    (hc : conformsEv L table held e = true) : obeysEv (discOf L table) held e = true := by
  cases e with
  | rd t x => obtain ⟨r, hr, hi⟩ := List.any_eq_true.1 hc; exact obeysEv_rd.2 (discOf_ok hd hr hi)
  | wr t x => obtain ⟨r, hr, hi⟩ := List.any_eq_true.1 hc; exact obeysEv_wr.2 (discOf_ok hd hr hi)
  | _ => rfl

end

theorem conforms_iff_prefix (L : Layout) (table : List Access) (tr : List Ev) :
    Conforms L table tr ↔
      ∀ pre e post, tr = pre ++ e :: post → conformsEv L table (holds pre) e = true :=
  fold_iff_prefix (p := fun s => conformsEv L table s.held) (fun _ => rfl) (fun _ _ _ => rfl) init tr

/-- A trace whose access events are instances of rows of a disciplined table obeys the discipline
    assignment derived from the table. -/
theorem c10_table_obeys (L : Layout) (table : List Access) (tr : List Ev)
    (hd : Disciplined table = true) (hc : Conforms L table tr) : Obeys (discOf L table) tr :=
  (obeys_iff_prefix _ tr).2 fun pre e post h =>
    conforms_obeysEv hd ((conforms_iff_prefix L table tr).1 hc pre e post h)

/-- **C10 (table part).**  If the access table passes the checker, then every well-formed trace
    whose access events are instances of table rows is free of data races. -/
theorem c10_table_sound (L : Layout) (table : List Access) (tr : List Ev)
    (hd : Disciplined table = true) (hwf : WellFormed tr) (hc : Conforms L table tr) :
    raceFree tr = true :=
  c10_lockset_race_free (discOf L table) tr hwf (c10_table_obeys L table tr hd hc)

theorem disciplined_of_strict (table : List Access) (h : DisciplinedStrict table = true) :
    Disciplined table = true := by
  refine List.all_eq_true.2 fun r hr => ?_
  have := List.all_eq_true.1 h r hr
  simp only [Bool.or_eq_true] at this ⊢
  exact this.imp_right fun h' => List.all_eq_true.2 fun a ha =>
    (Bool.and_eq_true_iff.1 (List.all_eq_true.1 h' a ha)).1

theorem c10_table_sound_strict (L : Layout) (table : List Access) (tr : List Ev)
    (hd : DisciplinedStrict table = true) (hwf : WellFormed tr) (hc : Conforms L table tr) :
    raceFree tr = true :=
  c10_table_sound L table tr (disciplined_of_strict table hd) hwf hc

/-- An event annotated with the table row it instantiates (`none` for synchronisation events). -/
abbrev AEv := Ev × Option Access

def annOk (L : Layout) (table : List Access) (held : Nat → Nat → Bool) : AEv → Bool
  | (.rd t x, some r) => table.contains r && isInstance L held r false t x
  | (.wr t x, some r) => table.contains r && isInstance L held r true t x
  | (.rd _ _, none) => false
  | (.wr _ _, none) => false
  | _ => true

def annFrom (L : Layout) (table : List Access) (s : St) : List AEv → Bool
  | [] => true
  | a :: tr => annOk L table s.held a && annFrom L table (step s a.1) tr

/-- Every access event is annotated with a row of the table of which it is an instance. -/
def ConformsAnn (L : Layout) (table : List Access) (atr : List AEv) : Prop :=
  annFrom L table init atr = true

instance (L : Layout) (table : List Access) (atr : List AEv) :
    Decidable (ConformsAnn L table atr) := by unfold ConformsAnn; infer_instance

theorem annOk_conformsEv {L : Layout} {table : List Access} {held : Nat → Nat → Bool} {a : AEv}
    (h : annOk L table held a = true) : conformsEv L table held a.1 = true := by
  obtain ⟨e, o⟩ := a
  cases e with
  | rd t x | wr t x =>
    cases o with
    | none => exact nomatch h
    | some r =>
      have h := Bool.and_eq_true_iff.1 h
      exact List.any_eq_true.2 ⟨r, List.contains_iff_mem.1 h.1, h.2⟩
  | _ => rfl

theorem annFrom_conformsFrom {L : Layout} {table : List Access} (atr : List AEv) (s : St)
    (h : annFrom L table s atr = true) : conformsFrom L table s (atr.map (·.1)) = true := by
  induction atr generalizing s with
  | nil => rfl
  | cons a atr ih =>
    simp only [annFrom, Bool.and_eq_true] at h
    simp only [List.map_cons, conformsFrom, Bool.and_eq_true]
    exact ⟨annOk_conformsEv h.1, ih _ h.2⟩

/-- `c10_table_sound` for a trace in which each event is annotated with its row. -/
theorem c10_table_sound_annotated (L : Layout) (table : List Access) (atr : List AEv)
    (hd : Disciplined table = true) (hwf : WellFormed (atr.map (·.1)))
    (hc : ConformsAnn L table atr) : raceFree (atr.map (·.1)) = true :=
  c10_table_sound L table _ hd hwf (annFrom_conformsFrom atr init hc)

section Examples

/-- Two threads write `x = 7`, thread 1 under mutex 0, thread 2 without it. -/
def racy : List Ev := [.acq 1 0, .wr 1 7, .rel 1 0, .wr 2 7]

/-- The model CAN exhibit a race: a well-formed 4-event trace is reported racy, at event 3. -/
example : WellFormed racy := by decide
example : raceFree racy = false := by decide
example : firstRace racy = some 3 := by decide
example : raceFreeDjit racy = false := by decide
example : ¬ Obeys (fun _ => .guarded 0) racy := by decide
/-- The same two writes, both under the mutex: no race. -/
example : raceFree [.acq 1 0, .wr 1 7, .rel 1 0, .acq 2 0, .wr 2 7, .rel 2 0] = true := by decide
/-- A lock that is a DIFFERENT mutex does not help. -/
example : raceFree [.acq 1 0, .wr 1 7, .rel 1 0, .acq 2 1, .wr 2 7, .rel 2 1] = false := by decide
/-- Read–read is not a conflict; write–read and read–write are. -/
example : raceFree [.rd 1 7, .rd 2 7] = true := by decide
example : raceFree [.wr 1 7, .rd 2 7] = false := by decide
example : raceFree [.rd 1 7, .wr 2 7] = false := by decide
/-- Happens-before is transitive through a third thread's critical section. -/
example : raceFree [.wr 1 7, .acq 1 0, .rel 1 0, .acq 3 0, .rel 3 0, .acq 3 1, .rel 3 1,
    .acq 2 1, .rd 2 7] = true := by decide
/-- … but not backwards: an acquire that precedes the release gives nothing. -/
example : raceFree [.acq 2 0, .rel 2 0, .wr 1 7, .acq 1 0, .rel 1 0, .rd 2 7] = false := by decide
/-- Thread creation and join order accesses; without them the same accesses race. -/
example : raceFree [.wr 0 7, .fork 0 1, .rd 1 7, .wr 1 7, .join 0 1, .wr 0 7] = true := by decide
example : raceFree [.wr 0 7, .rd 1 7] = false := by decide
example : raceFree [.fork 0 1, .wr 0 7, .rd 1 7] = false := by decide
example : raceFree [.wr 1 7, .wr 0 7, .join 0 1] = false := by decide
/-- `WellFormed` rejects a double acquire and a release by a non-holder. -/
example : ¬ WellFormed [.acq 1 0, .acq 2 0] := by decide
example : ¬ WellFormed [.acq 1 0, .rel 2 0] := by decide

/-- Location 5 is written by its owner (thread 0) under mutex 0, location 6 is guarded by mutex 0,
    every other location belongs to thread 2. -/
def exDisc : Nat → Disc := fun x =>
  if x = 5 then .ownerWrites 0 0 else if x = 6 then .guarded 0 else .threadLocal 2

/-- Three threads, one mutex: the owner (0) writes 5 under the lock and reads it lock-free; the
    threads 1 and 2 read 5 under the lock; everybody touches 6 under the lock; 2 uses 9 alone. -/
def disciplined : List Ev :=
  [.acq 0 0, .wr 0 5, .wr 0 6, .rel 0 0, .rd 0 5,
   .acq 1 0, .rd 1 5, .rd 1 6, .rel 1 0, .wr 2 9,
   .rd 0 5, .acq 2 0, .rd 2 5, .wr 2 6, .rel 2 0, .rd 2 9,
   .acq 0 0, .wr 0 5, .rd 0 6, .rel 0 0, .rd 0 5]

example : WellFormed disciplined := by decide
example : Obeys exDisc disciplined := by decide
example : raceFree disciplined = true := by decide
example : raceFreeDjit disciplined = true := by decide
/-- … and the theorem applies to it. -/
example : raceFree disciplined = true :=
  c10_lockset_race_free exDisc disciplined (by decide) (by decide)

/-- The conditions of `ownerWrites` are tight: a lock-free read by a NON-owner races with the
    owner's locked write; a lock-free WRITE by the owner races with a locked read. -/
example : raceFree [.acq 0 0, .wr 0 5, .rel 0 0, .rd 1 5] = false := by decide
example : ¬ Obeys exDisc [.acq 0 0, .wr 0 5, .rel 0 0, .rd 1 5] := by decide
example : raceFree [.acq 1 0, .rd 1 5, .rel 1 0, .wr 0 5] = false := by decide
example : ¬ Obeys exDisc [.acq 1 0, .rd 1 5, .rel 1 0, .wr 0 5] := by decide

/-- A table in the shape the extraction tool produces. -/
def exTable : List Access :=
  [ ⟨"SessionWriter::setId", "writerProp.id", true, true, true⟩,
    ⟨"SessionWriter::addEvent", "writerProp.id", false, false, true⟩,
    ⟨"Session::consume", "writerProp.id", false, true, false⟩,
    ⟨"Session::addEventSource", "sources", true, true, false⟩,
    ⟨"Session::consume", "sources", false, true, false⟩,
    ⟨"SessionWriter::addEvent", "writer.buffer", true, false, true⟩,
    ⟨"SessionWriter::addEvent", "writer.buffer", false, false, true⟩ ]

def exLayout : Layout where
  name := fun x => if x = 5 then "writerProp.id" else if x = 6 then "sources" else "writer.buffer"
  owner := fun x => if x = 5 then 0 else 2
  lock := fun _ => 0

example : Disciplined exTable = true := by decide
example : DisciplinedStrict exTable = true := by decide
example : Conforms exLayout exTable disciplined := by decide
example : discOf exLayout exTable 5 = .ownerWrites 0 0 := by decide
example : discOf exLayout exTable 6 = .guarded 0 := by decide
example : discOf exLayout exTable 9 = .threadLocal 2 := by decide
example : raceFree disciplined = true :=
  c10_table_sound exLayout exTable disciplined (by decide) (by decide) (by decide)

/-- The checker rejects: a lock-free write next to a locked read; a lock-free read by a
    non-owner; a lock-free write by a non-owner. -/
example : Disciplined [⟨"f", "a", true, false, true⟩, ⟨"g", "a", false, true, false⟩] = false := by
  decide
example : Disciplined [⟨"f", "a", true, true, true⟩, ⟨"g", "a", false, false, false⟩] = false := by
  decide
example : Disciplined [⟨"f", "a", true, false, false⟩] = false := by decide
/-- … and a trace that is not an instance of the table is rejected by `Conforms`. -/
example : ¬ Conforms exLayout exTable [.acq 0 0, .wr 0 5, .rel 0 0, .rd 1 5] := by decide

end Examples

end BinlogVerif.C10
