import BinlogVerif.Lemmas.TimePrint
/-
  C17 — Timestamps: the printed time denotes syncTime + (clock − syncClock)/frequency.
  The model and what it assumes (A1–A6) are in `BinlogVerif/Reader/Time.lean`.
-/
namespace BinlogVerif.C17
open BinlogVerif BinlogVerif.Time

/-- `civilFromDays` (the contract assumed for `gmtime_r`) and the independent specification
    `daysFromCivil` (leap-year rule + cumulative month lengths) are inverse to each other on valid
    dates of the proleptic Gregorian calendar, for every day number. -/
theorem c17_calendar :
    (∀ z : Int, ValidDate (civilFromDays z).1 (civilFromDays z).2.1 (civilFromDays z).2.2 ∧
        daysFromCivil (civilFromDays z).1 (civilFromDays z).2.1 (civilFromDays z).2.2 = z) ∧
    (∀ (y : Int) (m d : Nat), ValidDate y m d → civilFromDays (daysFromCivil y m d) = (y, m, d)) :=
  ⟨civil_spec, civilFromDays_daysFromCivil⟩

/-- **C17 (instant).**  Let `f = clockFrequency ∈ [1, 9.2·10⁹)`, all fields 64-bit values,
    `syncNs < 2⁶³`, and let `T = syncNs + (clock − syncClock)·10⁹ / f` be the exact rational
    instant in nanoseconds.  If `0 ≤ T < 9214646400·10⁹` (1970-01-01 … 2262-01-01) then the
    computed `r = clockToNs cs clock` satisfies `|r − T| < 1`:
    with `D = (clock − syncClock)·10⁹` (an exact integer, so `T − syncNs = D / f`) and
    `d = r − syncNs`, after the sync point `f·d ≤ D < f·(d+1)` (floor), before it
    `f·(d−1) < D ≤ f·d` (truncation toward zero).  No bound on the tick distance is assumed. -/
theorem c17_instant (cs : ClockSync) (clock : Nat)
    (hf1 : 1 ≤ cs.clockFrequency) (hf2 : cs.clockFrequency < 9200000000)
    (hclock : clock < 2 ^ 64) (hsc : cs.clockValue < 2 ^ 64) (hsn : cs.nsSinceEpoch < 2 ^ 63)
    (hT0 : 0 ≤ (cs.clockFrequency : Int) * cs.nsSinceEpoch + ((clock : Int) - cs.clockValue) * 10 ^ 9)
    (hT1 : (cs.clockFrequency : Int) * cs.nsSinceEpoch + ((clock : Int) - cs.clockValue) * 10 ^ 9
              < cs.clockFrequency * (9214646400 * 10 ^ 9)) :
    let f : Int := cs.clockFrequency
    let D : Int := ((clock : Int) - cs.clockValue) * 10 ^ 9
    let d : Int := clockToNs cs clock - cs.nsSinceEpoch
    (0 ≤ clockToNs cs clock ∧ clockToNs cs clock ≤ 9214646400 * 10 ^ 9) ∧
    (cs.clockValue ≤ clock → f * d ≤ D ∧ D < f * (d + 1)) ∧
    (clock < cs.clockValue → f * (d - 1) < D ∧ D ≤ f * d) := by
  -- the exact instant is `S + D / f`; the code computes `S + D.tdiv f`
  obtain ⟨r0, r1, aft, bef⟩ := tdiv_window (by omega) hT0 hT1
  generalize hq : (((clock : Int) - cs.clockValue) * 10 ^ 9).tdiv cs.clockFrequency = q at r0 r1 aft bef
  rw [clockToNs_eq cs clock hclock hsc hf1 (by omega) hsn q hq (by omega) (by omega) (by omega),
    show (cs.nsSinceEpoch : Int) + q - cs.nsSinceEpoch = q by omega]
  exact ⟨⟨r0, r1⟩, fun h => aft (by omega), fun h => bef (by omega)⟩

/-- **C17 (fields).**  For every `int64` nanosecond count `ns` (negative zone-shifted values
    included; excluded are only the 854775808 values below `-9223372036·10⁹`, i.e. the last
    0.85 s above `INT64_MIN`, where `seconds·10⁹` overflows — see `c17_fields_int64_min`), the
    broken-down time has `0 ≤ nsec < 10⁹`, `hour < 24`, `min < 60`, `sec < 60`, a valid
    proleptic-Gregorian date, and denotes exactly `ns`. -/
theorem c17_fields (ns : Int) (h0 : -9223372036000000000 ≤ ns) (h1 : ns < 2 ^ 63) :
    let b := brokenDown ns
    0 ≤ b.nsec ∧ b.nsec < 10 ^ 9 ∧ b.hour < 24 ∧ b.min < 60 ∧ b.sec < 60 ∧
    ValidDate b.year b.mon b.mday ∧
    ((((daysFromCivil b.year b.mon b.mday) * 24 + b.hour) * 60 + b.min) * 60 + b.sec) * 10 ^ 9
      + b.nsec = ns := by
  rw [brokenDown_eq ns h0 h1]
  obtain ⟨v, h, m, s, e⟩ := gmtime_fields (ns / 1000000000)
  refine ⟨by simp only; omega, by simp only; omega, h, m, s, v, ?_⟩
  simp only
  rw [e]
  omega

/-- every `int64` nanosecond count in the range of `c17_fields` falls in the years 1677..2262,
    so the year hypothesis of `c17_printed_fields` is always met by `%d`/`%u` -/
theorem c17_year_range (ns : Int) (h0 : -9223372036000000000 ≤ ns) (h1 : ns < 2 ^ 63) :
    1677 ≤ (brokenDown ns).year ∧ (brokenDown ns).year ≤ 2262 := by
  obtain ⟨n0, n1, h, m, s, v, e⟩ := c17_fields ns h0 h1
  generalize brokenDown ns = g at *
  obtain ⟨b0, b1⟩ := daysFromCivil_bounds v
  have lo : daysBeforeYear 1677 = 612147 := by decide
  have hi : daysBeforeYear (2262 + 1) = 826178 := by decide
  exact ⟨Int.le_of_lt_add_one (lt_of_daysBeforeYear_lt (by omega)),
    Int.le_of_lt_add_one (lt_of_daysBeforeYear_lt (by omega))⟩

/-- **C17 (printed fields).**  For every `int64` `ns` (range as in `c17_fields`) whose year is in
    `0..9999`, each conversion specifier prints (never traps) the zero-padded decimal digits of
    the corresponding field of `brokenDown ns`: `%Y` the year in decimal (four digits from year
    1000 on), `%y` `year mod 100`, `%m %d %H %M %S` two digits, `%N` nine digits, `%Z` the zone
    name up to its first NUL; `%z` prints (never traps, whatever the offset) a sign and two
    two-digit groups, which for `|offset| < 360000` s (100 h) are the hours and minutes of the
    offset.  (43 = `+`, 45 = `-`.)  The year hypothesis always holds: `c17_year_range`. -/
theorem c17_printed_fields (ns : Int) (h0 : -9223372036000000000 ≤ ns) (h1 : ns < 2 ^ 63)
    (hy0 : 0 ≤ (brokenDown ns).year) (hy1 : (brokenDown ns).year ≤ 9999) (tz : Int) (name : Bytes) :
    let b := brokenDown ns
    printTimeField 'Y' b tz name = .ok (decInt b.year) ∧
    (1000 ≤ b.year → printTimeField 'Y' b tz name = .ok (dig4 b.year.toNat)) ∧
    printTimeField 'y' b tz name = .ok (dig2 (b.year % 100).toNat) ∧
    printTimeField 'm' b tz name = .ok (dig2 b.mon) ∧
    printTimeField 'd' b tz name = .ok (dig2 b.mday) ∧
    printTimeField 'H' b tz name = .ok (dig2 b.hour) ∧
    printTimeField 'M' b tz name = .ok (dig2 b.min) ∧
    printTimeField 'S' b tz name = .ok (dig2 b.sec) ∧
    printTimeField 'N' b tz name = .ok (dig9 b.nsec.toNat) ∧
    printTimeField 'Z' b tz name = .ok (cstr name) ∧
    (∃ h m : Nat, printTimeField 'z' b tz name
        = .ok ((if tz ≥ 0 then 43 else 45) :: (dig2 h ++ dig2 m))) ∧
    (-360000 < tz → tz < 360000 → printTimeField 'z' b tz name
        = .ok ((if tz ≥ 0 then 43 else 45) :: (dig2 (tz.natAbs / 3600) ++ dig2 (tz.natAbs / 60 % 60)))) := by
  obtain ⟨n0, n1, _⟩ := c17_fields ns h0 h1
  obtain ⟨t1, t2, t3, t4, t5⟩ := brokenDown_twoDigit ns
  generalize brokenDown ns = b at *
  obtain ⟨hY, hy⟩ := printTimeField_year b tz name hy0 hy1
  refine ⟨hY, fun hk => ?_, hy, printTwoDigits_nat _ t1, printTwoDigits_nat _ t2, printTwoDigits_nat _ t3,
    printTwoDigits_nat _ t4, printTwoDigits_nat _ t5, ?_, rfl, printTimeZoneOffset_total _,
    printTimeZoneOffset_small _⟩
  · rw [hY, decInt, if_neg (by omega), ← decNat_4 _ (by omega) (by omega),
      show b.year.natAbs = b.year.toNat by omega]
  · have := printNineDigits_nat b.nsec.toNat (by omega)
    rwa [Int.toNat_of_nonneg n0] at this

/-- **C17 (`%z`).**  The two `%z` clauses of `c17_printed_fields`, for every 32-bit zone offset and whatever the
    broken-down time.  (Formerly `abs(INT_MIN)` / hours ≥ 100 failed the `printTwoDigits` assertion.) -/
theorem c17_printed_zone (b : BDT) (raw : Nat) (name : Bytes) :
    let tz := toI32 raw
    (∃ h m : Nat, printTimeField 'z' b tz name
        = .ok ((if tz ≥ 0 then 43 else 45) :: (dig2 h ++ dig2 m))) ∧
    (-360000 < tz → tz < 360000 → printTimeField 'z' b tz name
        = .ok ((if tz ≥ 0 then 43 else 45) :: (dig2 (tz.natAbs / 3600) ++ dig2 (tz.natAbs / 60 % 60)))) :=
  ⟨printTimeZoneOffset_total _, printTimeZoneOffset_small _⟩

/-- **C17 (format).**  `printTime` on every date format string: a `%` followed by a char prints
    that field and continues after the char; a `%` at the very end is printed as is; any other
    char is copied. -/
theorem c17_format (b : BDT) (tz : Int) (name : Bytes) :
    printTime [] b tz name = .ok [] ∧
    (∀ c, printTime [c] b tz name = .ok [c]) ∧
    (∀ spec rest, printTime (37 :: spec :: rest) b tz name =
      (do let a ← printTimeField (Char.ofNat spec.toNat) b tz name
          let r ← printTime rest b tz name
          pure (a ++ r))) ∧
    (∀ c c2 rest, c ≠ 37 → printTime (c :: c2 :: rest) b tz name =
      (do let r ← printTime (c2 :: rest) b tz name
          pure (c :: r))) :=
  ⟨rfl, fun _ => rfl, fun s r => printTime_percent s r b tz name,
    fun c c2 r hc => printTime_literal c hc c2 r b tz name⟩

/-- **C17 (what is printed).**  With a usable clock sync, `%u` prints the fields of
    `brokenDown (clockToNs cs clock)` with offset 0 and name `UTC`; `%d` prints the fields of
    the instant shifted by the zone offset, with the offset and name of the clock sync.
    If the shifted instant is an `int64` the shift is exact. -/
theorem c17_printed_instant (fmt : Bytes) (cs : ClockSync) (clock : Nat)
    (hf : 0 < wrap64 (cs.clockFrequency : Int)) :
    printUTC fmt cs clock = printTime fmt (brokenDown (clockToNs cs clock)) 0 utcName ∧
    ∃ shifted : Int,
      printLocal fmt cs clock = printTime fmt (brokenDown shifted) (toI32 cs.tzOffset) cs.tzName ∧
      -2 ^ 63 ≤ shifted ∧ shifted < 2 ^ 63 ∧
      (-2 ^ 63 ≤ clockToNs cs clock + toI32 cs.tzOffset * 10 ^ 9 →
        clockToNs cs clock + toI32 cs.tzOffset * 10 ^ 9 < 2 ^ 63 →
        shifted = clockToNs cs clock + toI32 cs.tzOffset * 10 ^ 9) := by
  simp only [printUTC, printLocal, hf, if_true, Int.reducePow]
  refine ⟨trivial, _, rfl, (wrap64_range _).1, (wrap64_range _).2, fun a b => ?_⟩
  have := toI32_range cs.tzOffset
  rw [wrap64_id (toI32 cs.tzOffset * 1000000000) (by omega), wrap64_id _ ⟨a, b⟩]

/-- **C17 (no sync).**  If the frequency, read as `int64`, is not positive (`f = 0` or
    `f ≥ 2⁶³`), both `%d` and `%u` print the placeholder `no_clock_sync?`, for every format. -/
theorem c17_no_sync (fmt : Bytes) (cs : ClockSync) (clock : Nat)
    (hf : wrap64 (cs.clockFrequency : Int) ≤ 0) :
    printLocal fmt cs clock = .ok noClockSync ∧ printUTC fmt cs clock = .ok noClockSync := by
  have hf' : ¬ wrap64 (cs.clockFrequency : Int) > 0 := by omega
  simp [printLocal, printUTC, hf']

/-- `wrap64 f ≤ 0` for a 64-bit `f` means `f = 0` or `f ≥ 2⁶³` -/
theorem c17_no_sync_iff (f : Nat) (h : f < 2 ^ 64) :
    wrap64 (f : Int) ≤ 0 ↔ (f = 0 ∨ 2 ^ 63 ≤ f) := by
  unfold wrap64; omega

/-- **C17 (no trap).**  `%d` and `%u` never trap — in fact never fail — for ANY clock sync (well
    formed or not), clock value and date format: the `gmtime` model is total and every
    `printTwoDigits` argument is in `0..99` (including `%y` before year 0/1900 and `%z` for
    `INT_MIN`). -/
theorem c17_no_trap (fmt : Bytes) (cs : ClockSync) (clock : Nat) :
    (∃ out, printLocal fmt cs clock = .ok out) ∧ (∃ out, printUTC fmt cs clock = .ok out) ∧
    (∀ w, printLocal fmt cs clock ≠ .error (.trap w)) ∧
    (∀ w, printUTC fmt cs clock ≠ .error (.trap w)) := by
  obtain ⟨⟨a, ha⟩, b, hb⟩ :
      (∃ out, printLocal fmt cs clock = .ok out) ∧ (∃ out, printUTC fmt cs clock = .ok out) := by
    unfold printLocal printUTC
    split
    · exact ⟨printTime_total _ (brokenDown_twoDigit _) _ _ fmt, printTime_total _ (brokenDown_twoDigit _) _ _ fmt⟩
    · exact ⟨⟨_, rfl⟩, _, rfl⟩
  rw [ha, hb]
  exact ⟨⟨_, rfl⟩, ⟨_, rfl⟩, fun _ => nofun, fun _ => nofun⟩

section Examples

example : ascii "no_clock_sync?" = noClockSync ∧ ascii "UTC" = utcName := by decide

/-- former failing input (F-C17a): sync (clock 0, 1 GHz, ns 0, zone −3600 s), clock 1800.5 s -/
def syncA : ClockSync :=
  { clockValue := 0, clockFrequency := 1000000000, nsSinceEpoch := 0, tzOffset := 2 ^ 32 - 3600,
    tzName := ascii "CET" }

example : toI32 syncA.tzOffset = -3600 := by decide
example : clockToNs syncA 1800500000000 = 1800500000000 := by decide
example : brokenDown (1800500000000 + -3600 * 1000000000)
    = { year := 1969, mon := 12, mday := 31, hour := 23, min := 30, sec := 0, nsec := 500000000 } := by
  decide +kernel
example : printLocal (ascii "%Y-%m-%d %H:%M:%S.%N %z %Z") syncA 1800500000000
    = .ok (ascii "1969-12-31 23:30:00.500000000 -0100 CET") := by decide +kernel
example : printUTC (ascii "%Y-%m-%d %H:%M:%S.%N %z %Z") syncA 1800500000000
    = .ok (ascii "1970-01-01 00:30:00.500000000 +0000 UTC") := by decide +kernel

/-- former failing input (F-C17b): sync (0, 4 GHz, 0, 0), clock 1.2·10¹⁹ ≥ 2⁶³ ticks away -/
def syncB : ClockSync :=
  { clockValue := 0, clockFrequency := 4000000000, nsSinceEpoch := 0, tzOffset := 0, tzName := [] }

example : clockToNs syncB 12000000000000000000 = 3000000000 * 10 ^ 9 := by decide
example : brokenDown (clockToNs syncB 12000000000000000000)
    = { year := 2065, mon := 1, mday := 24, hour := 5, min := 20, sec := 0, nsec := 0 } := by
  decide +kernel
example : printLocal (ascii "%Y-%m-%d %H:%M:%S") syncB 12000000000000000000
    = .ok (ascii "2065-01-24 05:20:00") := by decide +kernel
/-- the hypotheses of `c17_instant` are satisfiable (here: by the F-C17b input) -/
example := c17_instant syncB 12000000000000000000 (by decide) (by decide) (by decide) (by decide)
  (by decide) (by decide) (by decide)
/-- … and before the sync point, with a sub-nanosecond tick period (9.19 GHz) -/
example := c17_instant
  { clockValue := 2 ^ 64 - 1, clockFrequency := 9190000000, nsSinceEpoch := 2 ^ 62 } 123456789
  (by decide) (by decide) (by decide) (by decide) (by decide) (by decide) (by decide)

example : brokenDown 0
    = { year := 1970, mon := 1, mday := 1, hour := 0, min := 0, sec := 0, nsec := 0 } := by
  decide +kernel
example : brokenDown (-1)
    = { year := 1969, mon := 12, mday := 31, hour := 23, min := 59, sec := 59, nsec := 999999999 } := by
  decide +kernel
/-- leap day 2024-02-29 (first and last nanosecond) and the day after -/
example : brokenDown (1709164800 * 10 ^ 9)
    = { year := 2024, mon := 2, mday := 29, hour := 0, min := 0, sec := 0, nsec := 0 } := by
  decide +kernel
example : brokenDown (1709251200 * 10 ^ 9 - 1)
    = { year := 2024, mon := 2, mday := 29, hour := 23, min := 59, sec := 59, nsec := 999999999 } := by
  decide +kernel
example : brokenDown (1709251200 * 10 ^ 9)
    = { year := 2024, mon := 3, mday := 1, hour := 0, min := 0, sec := 0, nsec := 0 } := by
  decide +kernel
/-- 2100 is not a leap year: 2100-02-28 23:59:59 is followed by 2100-03-01 00:00:00 -/
example : brokenDown (4107542400 * 10 ^ 9 - 1)
    = { year := 2100, mon := 2, mday := 28, hour := 23, min := 59, sec := 59, nsec := 999999999 } := by
  decide +kernel
example : brokenDown (4107542400 * 10 ^ 9)
    = { year := 2100, mon := 3, mday := 1, hour := 0, min := 0, sec := 0, nsec := 0 } := by
  decide +kernel
/-- 2000 is a leap year -/
example : brokenDown (951782400 * 10 ^ 9)
    = { year := 2000, mon := 2, mday := 29, hour := 0, min := 0, sec := 0, nsec := 0 } := by
  decide +kernel
example : daysFromCivil 1970 1 1 = 0 ∧ daysFromCivil 2024 2 29 = 19782 ∧
    daysFromCivil 2262 1 1 * 86400 = 9214646400 ∧ daysBeforeYear 1970 = 719162 := by decide
example : ValidDate 2024 2 29 ∧ ¬ ValidDate 2100 2 29 ∧ ValidDate 2000 2 29 ∧ ¬ ValidDate 2023 2 29 := by
  unfold ValidDate; decide

/-! format strings: `%` as last char, unknown specifier, `%%` -/
example : printUTC (ascii "100%") syncA 0 = .ok (ascii "100%") := by decide +kernel
example : printUTC (ascii "%q|%%|%") syncA 0 = .ok (ascii "%q|%%|%") := by decide +kernel
example : printUTC (ascii "%y%m%d") syncA 0 = .ok (ascii "700101") := by decide +kernel

example : printLocal (ascii "%Y") { clockFrequency := 0 } 5 = .ok (ascii "no_clock_sync?") := by
  decide +kernel
example : printUTC (ascii "%Y") { clockFrequency := 2 ^ 63 } 5 = .ok (ascii "no_clock_sync?") := by
  decide +kernel

/-! `%z` for `INT_MIN` (formerly `abs(INT_MIN)`, assertion failure) and for 100 h -/
example : printTimeField 'z' (brokenDown 0) (toI32 (2 ^ 31)) [] = .ok (ascii "-0014") := by
  decide +kernel
example : printTimeField 'z' (brokenDown 0) 360000 [] = .ok (ascii "+0000") := by decide +kernel
example : printTimeField 'z' (brokenDown 0) 20700 [] = .ok (ascii "+0545") := by decide +kernel
/-! `%y` before year 1900 and before year 0 of `tm_year` (1677: `tm_year = -223`) -/
example : printTimeField 'y' (brokenDown (-9223372036000000000)) 0 [] = .ok (ascii "77") := by
  decide +kernel

/-- RESIDUAL (outside C17's 1970–2262 range, reachable only with a crafted clock sync): in the
    last 0.85 s above `INT64_MIN` the conversion `seconds → nanoseconds` after the floor
    decrement overflows `int64` (undefined behaviour).  Under assumption A1 (wrap; this is what
    an unoptimised build does) the date printed is in 2262 instead of 1677; optimised builds
    fold the `* 10⁹ / 10⁹` round trip and print 1677.  `c17_fields` therefore excludes
    `ns < -9223372036·10⁹`, and the bound is tight. -/
theorem c17_fields_int64_min :
    (brokenDown (-2 ^ 63)).year = 2262 ∧ (brokenDown (-9223372036000000001)).year = 2262 ∧
    (brokenDown (-9223372036000000000)).year = 1677 := by decide +kernel

end Examples

end BinlogVerif.C17
