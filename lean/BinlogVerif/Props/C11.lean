import BinlogVerif.Lemmas.SessionMeta
import BinlogVerif.Props.C12
/-
  C11 — Consumed stream framing: whole entries per write, exact batches, right writer.

  In the L1 model a `write` call carries a list of entries by construction; what makes that the
  truth about the code is (i) C01's `c01_pieces_whole_commits` (each of the two pieces `beginRead`
  returns is a run of whole commits; a commit of `addEvent` is one framed entry, C04) and (ii) the
  correspondence harness, which records every real `OutputStream::write` call with its boundaries
  and compares it with the model's.  The theorems below are the byte-level consequences.
-/
namespace BinlogVerif.C11
open BinlogVerif BinlogVerif.Sess

/-- **A parsing output never sees a partial entry.**  If every entry of a write has a payload
    below 2^32 bytes, parsing the bytes of that single write call (entry stream of C12) yields
    exactly its entries and ends on an entry boundary. -/
theorem c11_whole_entries (w : Write) (hok : ∀ e ∈ w, PayloadOk e.payload) :
    splitEntries (writeBytes w) = (w.map Entry.payload, (writeBytes w).length, Tail.clean) := by
  apply C12.splitEntries_frames
  intro p hp
  obtain ⟨e, he, rfl⟩ := List.mem_map.mp hp
  exact hok e he

/-- **Each run of events is immediately preceded by its writer description.**  The write calls
    for one polled channel are: nothing, or a writer-description entry carrying the channel's
    writer id and name and `batchSize` = the byte length of the run, followed by one or two
    pieces whose concatenation is exactly the run; all events of the run come from that channel. -/
theorem c11_writer_prop (c : Chan) (p : Poll) :
    let batch := c.entries.take (pollN c p)
    (pollChan c p).batch = batch ∧
    (pollChan c p).writes.flatten =
      (if batch.isEmpty then [] else
        Entry.writerProp { id := c.wp.id, name := c.wp.name, batchSize := (writeBytes batch).length } :: batch) ∧
    ((pollChan c p).writes.length ≤ 3) := by
  refine ⟨by rw [pollChan_eq], pollChan_writes_flat c p, ?_⟩
  rw [pollChan_eq]
  unfold pieces
  simp only
  split
  · simp
  · split <;> simp

theorem sum_pieces (batch : List Entry) (k : Nat) :
    ((pieces batch k).map (fun w => (writeBytes w).length)).sum = (writeBytes batch).length := by
  unfold pieces
  simp only
  split
  · simp
  · simp only [List.map_cons, List.map_nil, List.sum_cons, List.sum_nil, Nat.add_zero]
    rw [← List.length_append, ← writeBytes_append, List.take_append_drop]

theorem pollAll_bytes (L : List Chan) (P : List Poll) :
    (pollAll L P).bytes = ((pollAll L P).writes.map (fun w => (writeBytes w).length)).sum := by
  rw [pollAll_eq]
  simp only
  induction polled L P with
  | nil => rfl
  | cons x xs ih =>
    rw [List.map_cons, List.sum_cons, ih, List.flatMap_cons, List.map_append, List.sum_append, pollChan_eq]
    split <;> simp [sum_pieces]

/-- **The byte counts `consume` reports equal the bytes it wrote**: `bytesConsumed` is the sum of
    the lengths of this call's writes and `totalBytesConsumed` accumulates them. -/
theorem c11_byte_counts (s : Session) (polls : List Poll) :
    (consume s polls).2.bytesConsumed = ((consumeWrites s polls).map (fun w => (writeBytes w).length)).sum ∧
    (consume s polls).2.totalBytesConsumed = s.totalConsumed + (consume s polls).2.bytesConsumed ∧
    (consume s polls).1.totalConsumed = (consume s polls).2.totalBytesConsumed := by
  refine ⟨?_, rfl, by rw [consume_fst]; rfl⟩
  unfold consume consumeWrites
  simp only [pollAll_bytes]
  cases s.consumeClockSync <;> simp [Nat.add_assoc]

theorem c11_byte_counts_reconsume (s : Session) :
    (reconsumeMetadata s).2.bytesConsumed =
      (writeBytes s.clockSyncs).length + (writeBytes (s.sources.take s.sourcesConsumed)).length ∧
    (reconsumeMetadata s).2.totalBytesConsumed = s.totalConsumed + (reconsumeMetadata s).2.bytesConsumed := by
  simp [reconsumeMetadata]

/-- **The whole byte stream of one consume**: clock syncs (if requested), the new sources, then per
    polled channel a writer description and its run of events — nothing else. -/
theorem c11_consume_stream (s : Session) (polls : List Poll) :
    (consumeWrites s polls).flatten =
      (if s.consumeClockSync then s.clockSyncs else []) ++ s.sources.drop s.sourcesConsumed ++
      (pollAll s.channels polls).writes.flatten :=
  consumeWrites_flatten s polls

/-! Non-vacuity: a wrapped batch delivered in two pieces. -/
example :
    (pollChan { cid := 0, owner := 1, wp := { id := 7, name := [97] }, closed := false, sealed := false,
                entries := [.event 1 10 [1], .event 1 11 [2], .event 1 12 [3]] } ⟨false, 3, 2⟩).writes
      = [[.writerProp { id := 7, name := [97], batchSize := 63 }],
         [.event 1 10 [1], .event 1 11 [2]], [.event 1 12 [3]]] := by
  decide

end BinlogVerif.C11
