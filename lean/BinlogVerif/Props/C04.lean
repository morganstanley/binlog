import BinlogVerif.Lemmas.Mser
import BinlogVerif.Reader.Entries
/-
  C04 — Encoded size is exact and the wire format is the documented one.

  `encode` IS the documented encoding (arithmetic/enum as the object bytes, sequence as 32-bit
  count then elements, tuple/struct as members in order, optional/pointer/variant as one
  discriminator byte then the alternative), written over the tag-level type universe `Ty`;
  `size` is computed the way the code computes it (count × sizeof for arithmetic sequences, sums
  otherwise).  That every C++ realisation of a `Ty` (vector/list/set/string/…, pair/tuple,
  optional/pointers/variant, adapted enum/struct) produces exactly `tag`/`size`/`encode` is the
  correspondence part of the check (generated programs over the real templates).
-/
namespace BinlogVerif.C04
open BinlogVerif BinlogVerif.Mser

/-- **The reported size is the number of bytes written**, for every type and every value. -/
theorem c04_size_exact (t : Ty) (v : Val) (h : hasTy t v = true) : size t v = (encode t v).length :=
  size_eq t v h

/-- sizes / encodings of an argument list (`addEvent`'s pack expansion) -/
def sizeArgs : List (Ty × Val) → Nat
  | [] => 0
  | (t, v) :: r => size t v + sizeArgs r
def encodeArgs : List (Ty × Val) → Bytes
  | [] => []
  | (t, v) :: r => encode t v ++ encodeArgs r

theorem sizeArgs_exact (args : List (Ty × Val)) (h : ∀ a ∈ args, hasTy a.1 a.2 = true) :
    sizeArgs args = (encodeArgs args).length := by
  induction args with
  | nil => rfl
  | cons a r ih =>
    obtain ⟨t, v⟩ := a
    simp only [sizeArgs, encodeArgs, List.length_append]
    rw [c04_size_exact t v (h (t, v) (by simp)), ih (fun a ha => h a (by simp [ha]))]

/-- what `SessionWriter::addEvent` reserves (`totalSize`) and what it then writes -/
def addEventReserve (args : List (Ty × Val)) : Nat := (8 + 8 + sizeArgs args) + 4
def addEventWrites (sid clock : Nat) (args : List (Ty × Val)) : Bytes :=
  le 4 (8 + 8 + sizeArgs args) ++ le 8 sid ++ le 8 clock ++ encodeArgs args

/-- **An event never writes outside the space reserved for it**: it writes exactly
    `totalSize` bytes. -/
theorem c04_event_fits (sid clock : Nat) (args : List (Ty × Val))
    (h : ∀ a ∈ args, hasTy a.1 a.2 = true) :
    (addEventWrites sid clock args).length = addEventReserve args := by
  simp only [addEventWrites, addEventReserve, List.length_append, le_length]
  rw [sizeArgs_exact args h]
  omega

/-- **The entry's size prefix equals its payload length**: what `addEvent` writes is the framed
    event payload (source id, clock, arguments), when the payload is below 2^32 bytes. -/
theorem c04_entry_prefix (sid clock : Nat) (args : List (Ty × Val))
    (h : ∀ a ∈ args, hasTy a.1 a.2 = true) :
    addEventWrites sid clock args = frame (eventPayload sid clock (encodeArgs args)) := by
  simp only [addEventWrites, frame, eventPayload, List.length_append, le_length, List.append_assoc]
  rw [sizeArgs_exact args h, Nat.add_assoc]

/-! Non-vacuity: a struct with a sequence, an optional and an enum. -/
def exTy : Ty := .struct [83] [([97], .seq (.arith 105)), ([98], .var [.null, .arith 100]), ([99], .enum 66 [69] [([49], [120])])]
def exVal : Val := .tup [.seq [.num 1, .num 2], .alt 1 (.num 0), .num 1]
theorem exTyped : hasTy exTy exVal = true := by
  simp [exTy, exVal, hasTy, hasTyAll, hasTyNth, hasTyFields, Visit.arithSize]
example : size exTy exVal = 22 ∧ (encode exTy exVal).length = 22 := by
  simp [exTy, exVal, size, sizeFields, sizeNth, encode, encodeFields, encodeAll, encodeNth, Visit.arithSize]

end BinlogVerif.C04
