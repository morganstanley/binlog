import BinlogVerif.Lemmas.SessionMeta
/-
  C03 — Metadata precedes the data that references it.

  Model: `Conc/Session.lean` (L1).  Operations that hold `Session::_mutex` are atomic steps; a log
  statement is "register the source if this call site has no id yet (`addSource`), then `log`" —
  `TraceOk` only demands that a `log` uses an id that some `addSource` has already returned,
  which is what the per-call-site atomic id guarantees in any interleaving (an id can be read from
  the static only after the store that follows registration).  Two threads hitting the same
  statement for the first time are two `addSource` steps returning two distinct ids.
  `consume` may run at any point of the trace with any oracle values (stale reads included).
-/
namespace BinlogVerif.C03
open BinlogVerif BinlogVerif.Sess

/-- **C03 — every event is preceded by its source entry and by a clock sync**, in every output
    (the first one and every one created by a rotation), in every reachable state, for every
    interleaving of registrations, log calls and consumes and every consume oracle. -/
theorem c03_source_before_event (cs : ClockSync) (ops : List Op) (s : Session)
    (hok : TraceOk (init cs) ops) (hrun : exec (init cs) ops = some s) :
    ∀ o ∈ s.outputs, ∀ pre post sid clock args, o.flatten = pre ++ Entry.event sid clock args :: post →
      (∃ src, Entry.source src ∈ pre ∧ src.id = sid) ∧ (∃ c, Entry.clockSync c ∈ pre) :=
  fun o ho => selfContained_spec _ ((metaInv_exec cs ops s hok hrun).selfContained o ho)

/-- **Source ids handed out by one session are pairwise distinct** (and are 1, 2, 3, …). -/
theorem c03_ids_distinct (cs : ClockSync) (ops : List Op) (s : Session)
    (hok : TraceOk (init cs) ops) (hrun : exec (init cs) ops = some s) :
    (srcIds s.sources).Nodup ∧ srcIds s.sources = List.range' 1 (s.nextSourceId - 1) := by
  have h := metaInv_exec cs ops s hok hrun
  refine ⟨?_, h.src_ids⟩
  rw [h.src_ids]
  exact List.nodup_range'

/-- **Each source is written once per output**: the source entries of the current output are
    exactly the consumed prefix of the registered sources, in registration order, each once. -/
theorem c03_each_source_once (cs : ClockSync) (ops : List Op) (s : Session)
    (hok : TraceOk (init cs) ops) (hrun : exec (init cs) ops = some s) :
    (curEntries s).filter isSource = s.sources.take s.sourcesConsumed ∧
    (srcIds ((curEntries s).filter isSource)).Nodup := by
  have h := metaInv_exec cs ops s hok hrun
  refine ⟨h.once, ?_⟩
  rw [h.once]
  have hd := (c03_ids_distinct cs ops s hok hrun).1
  rw [← srcIds_take_drop s.sources s.sourcesConsumed] at hd
  exact (List.nodup_append.mp hd).1

/-! Non-vacuity: two threads register the same statement twice (ids 1 and 2), both log, a consume
    runs in between and sees only part of the second writer's queue. -/
def exOps : List Op := [.createWriter 1 0 [], .createWriter 2 0 [], .addSource {}, .addSource {},
  .log 1 1 10 [] true, .consume [⟨false, 1, 0⟩, ⟨false, 0, 0⟩], .log 2 2 11 [] true, .log 2 1 12 [] true,
  .consume [⟨false, 5, 0⟩, ⟨false, 1, 0⟩], .rotate, .consume [⟨false, 5, 0⟩, ⟨false, 5, 0⟩]]

example : TraceOk (init {}) exOps := by decide

example : (exec (init {}) exOps).isSome = true := by decide

end BinlogVerif.C03
