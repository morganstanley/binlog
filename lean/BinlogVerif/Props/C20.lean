import BinlogVerif.Reader.Recovery
import BinlogVerif.Props.C12
/-
  C20 — Recovery tool robustness: arbitrary image in, whole entries (or nothing) out.
-/
namespace BinlogVerif.C20
open BinlogVerif BinlogVerif.Recovery

theorem slice_ok (buf : Bytes) (lo hi : Nat) (h1 : lo ≤ hi) (h2 : hi ≤ buf.length) :
    slice buf lo hi = .ok ((buf.drop lo).take (hi - lo)) :=
  if_pos ⟨h1, h2⟩

/-- **In bounds.**  With `W, E, R ≤ capacity` every slice `beginRead` takes lies inside the copied
    buffer, in all three branches. -/
theorem c20_in_bounds (buf : Bytes) (w e r : Nat) (hw : w ≤ buf.length) (he : e ≤ buf.length)
    (_hr : r ≤ buf.length) : ∃ data, beginReadCopy buf w e r = .ok data := by
  unfold beginReadCopy
  split
  · next h => exact ⟨_, slice_ok buf r w h hw⟩
  · split
    · next h => exact ⟨_, by rw [slice_ok buf r e (Nat.le_of_lt h) he, slice_ok buf 0 w w.zero_le hw]; rfl⟩
    · exact ⟨_, slice_ok buf 0 w w.zero_le hw⟩

theorem readMetadata_checked {r : Bytes} {b : Recovered} {n : Nat} (h : readMetadata r = some (b, n)) :
    checkEntryBuffer b.buffer = true := by
  -- `= some …` says that every guard was passed
  simp only [readMetadata, Option.ite_none_left_eq_some, Option.ite_none_right_eq_some, Option.some.injEq,
    Prod.mk.injEq] at h
  obtain ⟨_, _, hc, rfl, _⟩ := h
  exact hc

theorem readData_spec (r : Bytes) :
    readData r = .ok none ∨ ∃ b n, readData r = .ok (some (b, n)) ∧ checkEntryBuffer b.buffer = true := by
  unfold readData
  extract_lets session q w e cap rd rest buf
  by_cases h0 : r.length < 48
  · exact .inl (if_pos h0)
  rw [if_neg h0]
  by_cases h1 : w > cap ∨ e > cap ∨ rd > cap
  · exact .inl (if_pos h1)
  rw [if_neg h1]
  by_cases h2 : cap > rest.length
  · exact .inl (if_pos h2)
  rw [if_neg h2]
  -- past the three guards the indices lie inside the copied buffer, so `beginRead` cannot fail
  have hlen : buf.length = cap := List.length_take_of_le (Nat.le_of_not_gt h2)
  obtain ⟨data, hd⟩ := c20_in_bounds buf w e rd (by omega) (by omega) (by omega)
  rw [hd]
  by_cases hc : checkEntryBuffer data = true
  · exact .inr ⟨_, _, if_pos hc, hc⟩
  · exact .inl (if_neg hc)

/-- one iteration of the scan loop (the body of `Recovery.scan`), the remaining iterations being `k` -/
def scanBody (k : Bytes → Outcome (List Recovered)) (r : Bytes) : Outcome (List Recovered) :=
  match r.dropWhile (· != firstMagicByte) with
  | [] => .ok []
  | _ :: after =>
    if after.length < 7 then .ok [] else
    if firstMagicByte :: after.take 7 = metadataMagic then
      match readMetadata (after.drop 7) with
      | some (b, n) => (k ((after.drop 7).drop n)).map (b :: ·)
      | none => k (after.drop 7)
    else if firstMagicByte :: after.take 7 = dataMagic then
      match readData (after.drop 7) with
      | .error e => .error e
      | .ok (some (b, n)) => (k ((after.drop 7).drop n)).map (b :: ·)
      | .ok none => k (after.drop 7)
    else k after

theorem scan_succ (fuel : Nat) (r : Bytes) : scan (fuel + 1) r = scanBody (scan fuel) r := rfl

/-- the loop ends, or goes on at a strictly shorter `l`, with or without a checked buffer in front of what it returns -/
theorem scanBody_cases (r : Bytes) :
    (∀ k, scanBody k r = .ok []) ∨ ∃ l, l.length < r.length ∧ ((∀ k, scanBody k r = k l) ∨
      ∃ b, checkEntryBuffer b.buffer = true ∧ ∀ k, scanBody k r = (k l).map (b :: ·)) := by
  have hsb := fun k => scanBody.eq_1 k r
  have hdw := (List.dropWhile_sublist (· != firstMagicByte) (l := r)).length_le
  split at hsb
  · exact .inl hsb
  · rename_i x after heq
    rw [heq, List.length_cons] at hdw
    have hlt : ∀ n, ((after.drop 7).drop n).length < r.length := fun n => by simp only [List.length_drop]; omega
    by_cases hl : after.length < 7
    · exact .inl fun k => (hsb k).trans (if_pos hl)
    · simp only [if_neg hl] at hsb
      by_cases hm : firstMagicByte :: after.take 7 = metadataMagic
      · simp only [if_pos hm] at hsb
        rcases hr : readMetadata (after.drop 7) with _ | bn <;> rw [hr] at hsb
        · exact .inr ⟨_, hlt 0, .inl hsb⟩
        · exact .inr ⟨_, hlt bn.2, .inr ⟨bn.1, readMetadata_checked hr, hsb⟩⟩
      · simp only [if_neg hm] at hsb
        by_cases hd : firstMagicByte :: after.take 7 = dataMagic
        · simp only [if_pos hd] at hsb
          rcases readData_spec (after.drop 7) with h | ⟨b, n, h, hb⟩ <;> rw [h] at hsb
          · exact .inr ⟨_, hlt 0, .inl hsb⟩
          · exact .inr ⟨_, hlt n, .inr ⟨b, hb, hsb⟩⟩
        · simp only [if_neg hd] at hsb
          exact .inr ⟨after, by omega, .inl hsb⟩

theorem scan_spec (fuel : Nat) (r : Bytes) :
    ∃ bufs, scan fuel r = .ok bufs ∧ ∀ b ∈ bufs, checkEntryBuffer b.buffer = true := by
  induction fuel generalizing r with
  | zero => exact ⟨[], rfl, nofun⟩
  | succ fuel ih =>
    rw [scan_succ]
    rcases scanBody_cases r with h | ⟨l, _, h | ⟨b, hb, h⟩⟩ <;> rw [h]
    · exact ⟨[], rfl, nofun⟩
    · exact ih l
    · obtain ⟨bufs, h1, h2⟩ := ih l
      exact ⟨b :: bufs, by rw [h1]; rfl, List.forall_mem_cons.2 ⟨hb, h2⟩⟩

/-- **No crash, no out-of-bounds read**: for arbitrary input bytes the tool terminates (the model is
    a total function with fuel |image|+1, one loop iteration per consumed byte at least) and never
    takes a slice outside a copied buffer. -/
theorem c20_no_trap (image : Bytes) : ∃ out, recover image = .ok out := by
  obtain ⟨bufs, h, _⟩ := scan_spec (image.length + 1) image
  exact ⟨_, by rw [recover, h]⟩

theorem checkEntryBuffer_iff (b : Bytes) :
    checkEntryBuffer b = true ↔ ∃ ps, b = frames ps ∧ ∀ p ∈ ps, PayloadOk p := by
  unfold checkEntryBuffer
  refine ⟨fun h => ?_, fun ⟨ps, e, hok⟩ => by rw [e, C12.splitEntries_frames ps hok]⟩
  obtain ⟨h1, _, h3, h4⟩ := C12.c12_position b
  split at h
  · next ht =>
    -- the tail is clean, so `consumed` is the whole length and nothing is left behind the frames
    rw [ht] at h1 h3 h4
    exact ⟨_, by rw [h1, h4.mp rfl, List.drop_length, List.append_nil], h3⟩
  · cases h

theorem frames_flatten (l : List (List Bytes)) : (l.map frames).flatten = frames l.flatten := by
  induction l with
  | nil => rfl
  | cons a as ih => rw [List.map_cons, List.flatten_cons, List.flatten_cons, frames_append, ih]

theorem exists_frames_flatten (P : Bytes → Prop) (bufs : List Bytes)
    (h : ∀ b ∈ bufs, ∃ ps, b = frames ps ∧ ∀ p ∈ ps, P p) : ∃ ps, bufs.flatten = frames ps ∧ ∀ p ∈ ps, P p := by
  induction bufs with
  | nil => exact ⟨[], rfl, nofun⟩
  | cons b bs ih =>
    obtain ⟨⟨ps1, e1, o1⟩, h⟩ := List.forall_mem_cons.1 h
    obtain ⟨ps2, e2, o2⟩ := ih h
    exact ⟨ps1 ++ ps2, by rw [List.flatten_cons, e1, e2, frames_append], List.forall_mem_append.2 ⟨o1, o2⟩⟩

/-- **Whatever it writes is a sequence of complete entries.** -/
theorem c20_whole_entries (image : Bytes) (out : Bytes) (h : recover image = .ok out) :
    ∃ ps, out = frames ps ∧ ∀ p ∈ ps, PayloadOk p := by
  obtain ⟨bufs, hs, hc⟩ := scan_spec (image.length + 1) image
  rw [recover, hs] at h
  cases h
  exact exists_frames_flatten _ _ (List.forall_mem_map.2 fun r hr =>
    (checkEntryBuffer_iff _).mp (hc r (List.mem_mergeSort.mp hr)))

/-- **A queue whose indices are inconsistent with its capacity contributes nothing.** -/
theorem c20_inconsistent_queue_emits_nothing (r : Bytes) (h48 : 48 ≤ r.length)
    (hbad : unle ((r.drop 8).take 8) > unle ((r.drop 24).take 8) ∨
            unle ((r.drop 16).take 8) > unle ((r.drop 24).take 8) ∨
            unle ((r.drop 40).take 8) > unle ((r.drop 24).take 8)) :
    readData r = .ok none := by
  unfold readData
  rw [if_neg (by omega)]
  simp only [List.drop_drop]
  exact if_pos hbad

/-! Non-vacuity: an image holding one metadata buffer and one wrapped queue. -/
def exImage : Bytes :=
  [1, 2, 3] ++ metadataMagic ++ le 8 77 ++ le 8 5 ++ frame [9] ++ [0xBC, 0, 0] ++
  dataMagic ++ le 8 77 ++ le 8 5 ++ le 8 11 ++ le 8 12 ++ le 8 0 ++ le 8 6 ++
    ([1, 0, 0, 0, 42] ++ [0] ++ [1, 0, 0, 0, 41] ++ [0])
example : (scan (exImage.length + 1) exImage).toOption.map (·.map (·.buffer)) = some [frame [9], frame [41] ++ frame [42]] := by
  decide

end BinlogVerif.C20
