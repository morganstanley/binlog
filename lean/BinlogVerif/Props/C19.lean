import BinlogVerif.Conc.Macro
/-
  C19 — Severity control: disabled statements produce nothing and evaluate nothing.
-/
namespace BinlogVerif.C19
open BinlogVerif BinlogVerif.Macro

/-- **Disabled**: a statement below the session's current minimum produces no event, registers no
    source and evaluates none of its arguments — the whole state is unchanged. -/
theorem c19_disabled (s : St) (st : Stmt) (h : st.severity < s.minOf st.session) : step s (.stmt st) = s :=
  if_neg (Nat.not_le.2 h)

/-- **Enabled**: a statement at or above the minimum produces exactly one event, evaluates each
    argument (once; twice on the first execution of the call site, which also computes the argument
    tags from them), and registers its source iff this call site has not been registered. -/
theorem c19_enabled (s : St) (st : Stmt) (h : st.severity ≥ s.minOf st.session) :
    (step s (.stmt st)).events = s.events + 1 ∧
    (step s (.stmt st)).evals = s.evals + (if s.registered.contains st.site then st.nargs else 2 * st.nargs) ∧
    (step s (.stmt st)).sources = s.sources + (if s.registered.contains st.site then 0 else 1) ∧
    (step s (.stmt st)).registered.contains st.site = true := by
  rw [show step s (.stmt st) = _ from if_pos h]
  cases hc : s.registered.contains st.site
  · simp
  · simpa using hc

theorem minOf_setMin (s : St) (session sev other : Nat) :
    (step s (.setMin session sev)).minOf other = if other = session then sev else s.minOf other := by
  simp only [step, St.minOf, List.find?_cons, List.find?_filter]
  split
  · next h => rw [beq_iff_eq.1 h, if_pos rfl]; rfl
  · next h =>
    have hne : other ≠ session := Ne.symm (beq_eq_false_iff_ne.1 h)
    rw [if_neg hne]
    congr 3; funext a
    by_cases ha : a.1 = other <;> simp [ha, hne]

/-- **A change of the minimum takes effect for every later statement** of that session and leaves
    other sessions alone. -/
theorem c19_takes_effect (s : St) (session sev : Nat) :
    (step s (.setMin session sev)).minOf session = sev ∧
    ∀ other, other ≠ session → (step s (.setMin session sev)).minOf other = s.minOf other :=
  ⟨(minOf_setMin ..).trans (if_pos rfl), fun _ h => (minOf_setMin ..).trans (if_neg h)⟩

/-- number of statements of a history that are enabled when they run -/
def enabledCount : St → List Op → Nat
  | _, [] => 0
  | s, op :: ops =>
    (match op with
      | .stmt st => if st.severity ≥ s.minOf st.session then 1 else 0
      | _ => 0) + enabledCount (step s op) ops

/-- **Over a whole history** of minimum-severity changes and statements of any severity, family and
    writer: the number of events produced is exactly the number of statements that were at or
    above the minimum in force when they ran. -/
theorem c19_history (s : St) (ops : List Op) : (exec s ops).events = s.events + enabledCount s ops := by
  induction ops generalizing s with
  | nil => rfl
  | cons op ops ih =>
    refine (ih (step s op)).trans ?_
    cases op with
    | setMin a b => simp only [enabledCount, Nat.zero_add]; rfl
    | stmt st =>
      by_cases h : st.severity ≥ s.minOf st.session
      · simp only [enabledCount, if_pos h, (c19_enabled s st h).1, Nat.add_assoc]
      · simp only [enabledCount, if_neg h, c19_disabled s st (Nat.not_le.1 h), Nat.zero_add]

/-- the 24 macro names, four families for each of the six severities -/
theorem c19_families : macroTable.length = 24 ∧
    (macroTable.map (·.2.1)).eraseDups = [32, 64, 128, 256, 512, 1024] := by decide

/-! Non-vacuity -/
example : (exec {} [.stmt ⟨1, 0, 128, 2⟩, .setMin 0 512, .stmt ⟨1, 0, 128, 2⟩, .stmt ⟨2, 0, 512, 1⟩, .stmt ⟨3, 1, 32, 3⟩]) =
    { minSeverity := [(0, 512)], registered := [3, 2, 1], events := 3, sources := 3, evals := 12 } := by decide

end BinlogVerif.C19
