import BinlogVerif.Base.Bytes
import BinlogVerif.Conc.Image
import BinlogVerif.Conc.Locks
import BinlogVerif.Conc.Macro
import BinlogVerif.Conc.Proto
import BinlogVerif.Conc.Queue
import BinlogVerif.Conc.QueueAccess
import BinlogVerif.Conc.Session
import BinlogVerif.Conc.SessionAccess
import BinlogVerif.Generated.Consts
import BinlogVerif.Generated.Locks
import BinlogVerif.Generated.Macros
import BinlogVerif.Generated.Orders
import BinlogVerif.Generated.Session
import BinlogVerif.Lemmas.Classify
import BinlogVerif.Lemmas.Dest
import BinlogVerif.Lemmas.E2E
import BinlogVerif.Lemmas.E2ESession
import BinlogVerif.Lemmas.ImageContent
import BinlogVerif.Lemmas.ImageJunk
import BinlogVerif.Lemmas.ImageScan
import BinlogVerif.Lemmas.ImageSession
import BinlogVerif.Lemmas.ImageSort
import BinlogVerif.Lemmas.Locks
import BinlogVerif.Lemmas.LocksDjit
import BinlogVerif.Lemmas.Mser
import BinlogVerif.Lemmas.NoTrapBase
import BinlogVerif.Lemmas.NoTrapBread
import BinlogVerif.Lemmas.NoTrapVisit
import BinlogVerif.Lemmas.QueueBasic
import BinlogVerif.Lemmas.QueueCons
import BinlogVerif.Lemmas.QueueInv
import BinlogVerif.Lemmas.QueueMain
import BinlogVerif.Lemmas.QueueProd
import BinlogVerif.Lemmas.Reader
import BinlogVerif.Lemmas.ReaderState
import BinlogVerif.Lemmas.Session
import BinlogVerif.Lemmas.SessionDeliver
import BinlogVerif.Lemmas.SessionMeta
import BinlogVerif.Lemmas.SpecSingular
import BinlogVerif.Lemmas.Split
import BinlogVerif.Lemmas.StrBytes
import BinlogVerif.Lemmas.TagDefs
import BinlogVerif.Lemmas.TagOccur
import BinlogVerif.Lemmas.TagParse
import BinlogVerif.Lemmas.TagResolve
import BinlogVerif.Lemmas.TagSingular
import BinlogVerif.Lemmas.TimeArith
import BinlogVerif.Lemmas.TimeCivil
import BinlogVerif.Lemmas.TimePrint
import BinlogVerif.Lemmas.VisitEnum
import BinlogVerif.Lemmas.VisitRecorder
import BinlogVerif.Lemmas.VisitRender
import BinlogVerif.Lemmas.VisitRenderPP
import BinlogVerif.Lemmas.SpecialStruct
import BinlogVerif.Lemmas.VisitUnfold
import BinlogVerif.Base.CSem
import BinlogVerif.Generated.SrcQueue
import BinlogVerif.Generated.SrcTime
import BinlogVerif.Generated.SrcReader
import BinlogVerif.Generated.SrcRecovery
import BinlogVerif.Lemmas.SrcBridgeTactic
import BinlogVerif.Lemmas.SrcBridgeQueue
import BinlogVerif.Lemmas.SrcBridgeTime
import BinlogVerif.Lemmas.SrcBridgeReader
import BinlogVerif.Lemmas.SrcBridgeRecovery
import BinlogVerif.Mser.Dest
import BinlogVerif.Mser.Proto
import BinlogVerif.Mser.Spec
import BinlogVerif.Mser.TagUtil
import BinlogVerif.Mser.Ty
import BinlogVerif.Mser.Visit
import BinlogVerif.Props.C01
import BinlogVerif.Props.C02
import BinlogVerif.Props.C03
import BinlogVerif.Props.C04
import BinlogVerif.Props.C05
import BinlogVerif.Props.C06
import BinlogVerif.Props.C07
import BinlogVerif.Props.C08
import BinlogVerif.Props.C09
import BinlogVerif.Props.C10
import BinlogVerif.Props.C11
import BinlogVerif.Props.C12
import BinlogVerif.Props.C13
import BinlogVerif.Props.C14
import BinlogVerif.Props.C15
import BinlogVerif.Props.C16
import BinlogVerif.Props.C17
import BinlogVerif.Props.C18
import BinlogVerif.Props.C19
import BinlogVerif.Props.C20
import BinlogVerif.Reader.Bread
import BinlogVerif.Reader.Entries
import BinlogVerif.Reader.EventStream
import BinlogVerif.Reader.Filter
import BinlogVerif.Reader.Pretty
import BinlogVerif.Reader.Proto
import BinlogVerif.Reader.Recovery
import BinlogVerif.Reader.SegMap
import BinlogVerif.Reader.Time
